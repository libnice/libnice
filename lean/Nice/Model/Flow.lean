/-
  Effect-dominance skeletons (deep embedding) and a VERIFIED reachability analysis over their finite tracked state.

  `tools/extract_flow.py` turns a C function into a `Stmt`: the few tracked locals become registers of `St`, every
  condition over untracked data becomes `Cond.orc` (either outcome possible), every call that is not on the
  translator's list of pure helpers becomes an event `Stmt.ev site kind`, a call whose result is stored in a tracked
  register becomes `Stmt.havoc` (any value the oracle `H site σ` allows), loops run zero or more times.

  `Exec` is the nondeterministic big-step semantics: it contains every execution of the C function for every outcome
  of the untracked code.  `reach` is the collecting semantics over SETS of tracked states, computable because the
  tracked state is finite; `reach_sound` proves once and for all that whenever `(reach H P p S).ok`, every event of
  every execution from a state of `S` satisfies the policy `P`.  A property of a regenerated skeleton is then one
  kernel computation (`decide +kernel`), independent of the shape of the function: a harmless edit does not break
  it, an edit that lets an event escape the policy does.

  Hand-written; part of the trusted base as far as `Exec` is the meaning of the generated term.
-/
namespace Nice.Flow

/-- four tracked registers -/
structure St where
  r0 : Nat := 0
  r1 : Nat := 0
  r2 : Nat := 0
  r3 : Nat := 0
  deriving DecidableEq, Repr

/-- Boolean equality through `Nat.beq` (evaluated natively by the kernel: the analysis below is run by
    `decide +kernel`) -/
def St.beq (a b : St) : Bool := Nat.beq a.r0 b.r0 && Nat.beq a.r1 b.r1 && Nat.beq a.r2 b.r2 && Nat.beq a.r3 b.r3

theorem nbeq_iff {a b : Nat} : Nat.beq a b = true ↔ a = b :=
  ⟨Nat.eq_of_beq_eq_true, fun h => h ▸ Nat.beq_refl a⟩

theorem St.beq_iff {a b : St} : St.beq a b = true ↔ a = b := by
  cases a; cases b
  simp only [St.beq, Bool.and_eq_true, nbeq_iff, St.mk.injEq, and_assoc]

def St.get (s : St) : Nat → Nat
  | 0 => s.r0 | 1 => s.r1 | 2 => s.r2 | _ => s.r3

def St.set (s : St) (r k : Nat) : St :=
  match r with
  | 0 => { s with r0 := k } | 1 => { s with r1 := k } | 2 => { s with r2 := k } | _ => { s with r3 := k }

inductive Cond where
  | eq (r k : Nat)           -- register r == constant k
  | orc (site : Nat)         -- condition over untracked data: both outcomes possible
  | not (c : Cond)
  | and (a b : Cond)         -- short-circuit
  | or (a b : Cond)
  deriving Repr

inductive Stmt where
  | skip
  | seq (a b : Stmt)
  | ite (c : Cond) (t e : Stmt)
  | set (r k : Nat)              -- register := constant
  | havoc (r site : Nat)         -- register := result of the call at `site` (any value `H site σ` allows)
  | ev (site kind : Nat)         -- a call / store that may have a side effect
  | ret (v : Nat)                -- return (v = 0 / 1 for those two literals, 2 for any other returned value)
  | brk
  | cont
  | loop (body : Stmt)           -- zero or more iterations; the loop condition is over untracked data
  | abort                        -- noreturn call
  | jmp                          -- `goto L` for the one label L that closes the enclosing `block`
  | block (b : Stmt)             -- `{ b } L:` : a `jmp` inside ends the block normally
  deriving Repr

inductive Out where
  | norm | brk | cont | ret (v : Nat) | abort | jmp
  deriving DecidableEq, Repr

def Out.code : Out → Nat
  | .norm => 0 | .brk => 1 | .cont => 2 | .abort => 3 | .jmp => 4 | .ret v => 5 + v

def Out.beq (a b : Out) : Bool := Nat.beq a.code b.code

theorem Out.beq_iff {a b : Out} : Out.beq a b = true ↔ a = b := by
  unfold Out.beq
  rw [nbeq_iff]
  cases a <;> cases b <;> simp [Out.code] <;> omega

def peq (a b : St × Out) : Bool := St.beq a.1 b.1 && Out.beq a.2 b.2

theorem peq_iff {a b : St × Out} : peq a b = true ↔ a = b := by
  obtain ⟨a1, a2⟩ := a; obtain ⟨b1, b2⟩ := b
  simp only [peq, Bool.and_eq_true, St.beq_iff, Out.beq_iff, Prod.mk.injEq]

structure Ev where
  site : Nat
  kind : Nat
  st : St
  deriving DecidableEq, Repr

/-- can the condition evaluate to true / to false in tracked state `s` (short-circuit `&&`, `||`) -/
def canT : Cond → St → Bool
  | .eq r k, s => Nat.beq (s.get r) k
  | .orc _, _ => true
  | .not c, s => canF c s
  | .and a b, s => canT a s && canT b s
  | .or a b, s => canT a s || (canF a s && canT b s)
where canF : Cond → St → Bool
  | .eq r k, s => !Nat.beq (s.get r) k
  | .orc _, _ => true
  | .not c, s => canT c s
  | .and a b, s => canF a s || (canT a s && canF b s)
  | .or a b, s => canF a s && canF b s

abbrev canF := @canT.canF

abbrev Havoc := Nat → St → List Nat

/-- every execution of the skeleton, for every outcome of the untracked code -/
inductive Exec (H : Havoc) : Stmt → St → List Ev → St → Out → Prop where
  | skip (s) : Exec H .skip s [] s .norm
  | seqN {a b s t1 s1 t2 s2 o} : Exec H a s t1 s1 .norm → Exec H b s1 t2 s2 o → Exec H (.seq a b) s (t1 ++ t2) s2 o
  | seqX {a b s t1 s1 o} : Exec H a s t1 s1 o → o ≠ .norm → Exec H (.seq a b) s t1 s1 o
  | iteT {c t e s tr s1 o} : canT c s = true → Exec H t s tr s1 o → Exec H (.ite c t e) s tr s1 o
  | iteF {c t e s tr s1 o} : canF c s = true → Exec H e s tr s1 o → Exec H (.ite c t e) s tr s1 o
  | set (r k s) : Exec H (.set r k) s [] (s.set r k) .norm
  | havoc {r site s v} : v ∈ H site s → Exec H (.havoc r site) s [] (s.set r v) .norm
  | ev (site kind s) : Exec H (.ev site kind) s [⟨site, kind, s⟩] s .norm
  | ret (v s) : Exec H (.ret v) s [] s (.ret v)
  | brk (s) : Exec H .brk s [] s .brk
  | cont (s) : Exec H .cont s [] s .cont
  | abort (s) : Exec H .abort s [] s .abort
  | jmp (s) : Exec H .jmp s [] s .jmp
  | blockJ {b s t s1} : Exec H b s t s1 .jmp → Exec H (.block b) s t s1 .norm
  | blockN {b s t s1 o} : Exec H b s t s1 o → o ≠ .jmp → Exec H (.block b) s t s1 o
  | loopExit (b s) : Exec H (.loop b) s [] s .norm
  | loopIter {b s t1 s1 o1 t2 s2 o2} : Exec H b s t1 s1 o1 → (o1 = .norm ∨ o1 = .cont) →
      Exec H (.loop b) s1 t2 s2 o2 → Exec H (.loop b) s (t1 ++ t2) s2 o2
  | loopBrk {b s t s1} : Exec H b s t s1 .brk → Exec H (.loop b) s t s1 .norm
  | loopOut {b s t s1 o} : Exec H b s t s1 o → (o ≠ .norm ∧ o ≠ .cont ∧ o ≠ .brk) → Exec H (.loop b) s t s1 o

def elemBy {α} (eq : α → α → Bool) (a : α) : List α → Bool
  | [] => false
  | x :: xs => eq a x || elemBy eq a xs

theorem elemBy_iff {α} {eq : α → α → Bool} (heq : ∀ {a b}, eq a b = true ↔ a = b) {a : α} {l : List α} :
    elemBy eq a l = true ↔ a ∈ l := by
  induction l with
  | nil => simp [elemBy]
  | cons x xs ih => simp only [elemBy, Bool.or_eq_true, heq, ih, List.mem_cons]

def dedupBy {α} (eq : α → α → Bool) : List α → List α
  | [] => []
  | x :: xs => if elemBy eq x xs then dedupBy eq xs else x :: dedupBy eq xs

theorem mem_dedupBy {α} {eq : α → α → Bool} (heq : ∀ {a b}, eq a b = true ↔ a = b) {a : α} {l : List α} :
    a ∈ dedupBy eq l ↔ a ∈ l := by
  induction l with
  | nil => simp [dedupBy]
  | cons x xs ih =>
    unfold dedupBy
    by_cases h : elemBy eq x xs = true
    · rw [if_pos h, ih]
      have hx := (elemBy_iff heq).mp h
      constructor
      · intro h1; exact List.mem_cons_of_mem _ h1
      · intro h1
        rcases List.mem_cons.mp h1 with rfl | h2
        · exact hx
        · exact h2
    · rw [if_neg h, List.mem_cons, ih, List.mem_cons]

def dedupS : List St → List St := dedupBy St.beq
def dedupP : List (St × Out) → List (St × Out) := dedupBy peq
def memS (s : St) (l : List St) : Bool := elemBy St.beq s l

theorem mem_dedupS {a : St} {l} : a ∈ dedupS l ↔ a ∈ l := mem_dedupBy St.beq_iff
theorem mem_dedupP {a : St × Out} {l} : a ∈ dedupP l ↔ a ∈ l := mem_dedupBy peq_iff
theorem memS_iff {a : St} {l} : memS a l = true ↔ a ∈ l := elemBy_iff St.beq_iff

structure Res where
  outs : List (St × Out) := []
  ok : Bool := true

def isJmp (o : Out) : Bool := Nat.beq o.code 4

theorem isJmp_iff {o : Out} : isJmp o = true ↔ o = .jmp := by
  cases o <;> simp [isJmp, Out.code] <;> omega

def unJmp (p : St × Out) : St × Out := if isJmp p.2 then (p.1, .norm) else p

def isNorm (o : Out) : Bool := Nat.beq o.code 0
def isNormOrCont (o : Out) : Bool := Nat.beq o.code 0 || Nat.beq o.code 2

theorem isNorm_iff {o : Out} : isNorm o = true ↔ o = .norm := by
  cases o <;> simp [isNorm, Out.code]

theorem isNormOrCont_iff {o : Out} : isNormOrCont o = true ↔ (o = .norm ∨ o = .cont) := by
  cases o <;> simp [isNormOrCont, Out.code] <;> omega

def normOf (l : List (St × Out)) : List St :=
  dedupS (l.filterMap fun p => if isNorm p.2 then some p.1 else none)

def contOf (l : List (St × Out)) : List St :=
  dedupS (l.filterMap fun p => if isNormOrCont p.2 then some p.1 else none)

theorem mem_normOf {l : List (St × Out)} {s : St} : s ∈ normOf l ↔ (s, Out.norm) ∈ l := by
  unfold normOf
  rw [mem_dedupS, List.mem_filterMap]
  constructor
  · rintro ⟨⟨s1, o⟩, hm, hf⟩
    by_cases ho : isNorm o = true
    · simp only [ho, if_true, Option.some.injEq] at hf
      subst hf
      rw [isNorm_iff] at ho; subst ho; exact hm
    · simp [ho] at hf
  · intro h; exact ⟨(s, .norm), h, by simp [isNorm, Out.code]⟩

theorem mem_contOf {l : List (St × Out)} {s : St} :
    s ∈ contOf l ↔ ((s, Out.norm) ∈ l ∨ (s, Out.cont) ∈ l) := by
  unfold contOf
  rw [mem_dedupS, List.mem_filterMap]
  constructor
  · rintro ⟨⟨s1, o⟩, hm, hf⟩
    by_cases ho : isNormOrCont o = true
    · simp only [ho, if_true, Option.some.injEq] at hf
      subst hf
      rcases isNormOrCont_iff.mp ho with rfl | rfl
      · exact Or.inl hm
      · exact Or.inr hm
    · simp [ho] at hf
  · rintro (h | h)
    · exact ⟨(s, .norm), h, by simp [isNormOrCont, Out.code]⟩
    · exact ⟨(s, .cont), h, by simp [isNormOrCont, Out.code]⟩

/-- how a loop turns the outcome of its body into its own outcome -/
def loopOut : St × Out → List (St × Out)
  | (s, .brk) => [(s, .norm)]
  | (_, .norm) => []
  | (_, .cont) => []
  | (s, o) => [(s, o)]

/-- the loop head states: closure of `S` under "one more iteration", `n` rounds (closedness is CHECKED, so the
    number of rounds only has to be large enough) -/
def closure (body : List St → Res) : Nat → List St → List St
  | 0, I => I
  | n + 1, I => closure body n (dedupS (I ++ contOf (body I).outs))

abbrev Policy := Nat → Nat → St → Bool

def rounds : Nat := 4

/-- collecting semantics: from the set `S` of tracked states, the possible (state, outcome) pairs, and whether
    every event met along the way satisfies the policy (and every loop's head set is closed) -/
def reach (H : Havoc) (P : Policy) : Stmt → List St → Res
  | .skip, S => { outs := S.map (·, .norm) }
  | .seq a b, S =>
    let ra := reach H P a S
    let rb := reach H P b (normOf ra.outs)
    { outs := dedupP (ra.outs.filter (fun p => !isNorm p.2) ++ rb.outs), ok := ra.ok && rb.ok }
  | .ite c t e, S =>
    let rt := reach H P t (S.filter fun s => canT c s)
    let re := reach H P e (S.filter fun s => canF c s)
    { outs := dedupP (rt.outs ++ re.outs), ok := rt.ok && re.ok }
  | .set r k, S => { outs := dedupP (S.map fun s => (s.set r k, .norm)) }
  | .havoc r site, S => { outs := dedupP (S.flatMap fun s => (H site s).map fun v => (s.set r v, .norm)) }
  | .ev site kind, S => { outs := S.map (·, .norm), ok := S.all fun s => P site kind s }
  | .ret v, S => { outs := S.map (·, .ret v) }
  | .brk, S => { outs := S.map (·, .brk) }
  | .cont, S => { outs := S.map (·, .cont) }
  | .abort, S => { outs := S.map (·, .abort) }
  | .jmp, S => { outs := S.map (·, .jmp) }
  | .block b, S =>
    let rb := reach H P b S
    { outs := dedupP (rb.outs.map unJmp), ok := rb.ok }
  | .loop b, S =>
    let I := closure (reach H P b) rounds S
    let rb := reach H P b I
    { outs := dedupP (I.map (·, .norm) ++ rb.outs.flatMap loopOut),
      ok := rb.ok && (contOf rb.outs).all (fun s => memS s I) && S.all (fun s => memS s I) }

/-- the third conjunct of the loop check of `reach` (`S ⊆ I`) always holds: `reach` tests it all the same, `reachF` omits it -/
theorem subset_closure (body : List St → Res) : ∀ n I, ∀ s ∈ I, s ∈ closure body n I
  | 0, _, _, h => h
  | n + 1, _, _, h => subset_closure body n _ _ (mem_dedupS.mpr (List.mem_append_left _ h))

/- By induction on the derivation, not on the statement: an iteration of `loopIter` ends in another execution of the SAME loop,
   which only the derivation's own induction hypothesis covers; hence the statement `p` with `hp : p = .loop b`.  `I` is any
   closed head set with an ok body, not only the one `reach` computes. -/
theorem loop_sound {H : Havoc} {P : Policy} {b : Stmt} {I : List St}
    (ihb : ∀ {S s tr s1 o}, Exec H b s tr s1 o → s ∈ S → (reach H P b S).ok = true →
        (s1, o) ∈ (reach H P b S).outs ∧ ∀ e ∈ tr, P e.site e.kind e.st = true)
    (hok : (reach H P b I).ok = true)
    (hclosed : ∀ s, s ∈ contOf (reach H P b I).outs → s ∈ I)
    {p s tr s1 o} (hx : Exec H p s tr s1 o) (hp : p = .loop b) (hs : s ∈ I) :
    ((s1, o) ∈ I.map (·, Out.norm) ∨ (s1, o) ∈ (reach H P b I).outs.flatMap loopOut) ∧
      ∀ e ∈ tr, P e.site e.kind e.st = true := by
  induction hx with
  | loopExit b' s =>
    refine ⟨Or.inl ?_, by intro e he; cases he⟩
    exact List.mem_map.mpr ⟨s, hs, rfl⟩
  | @loopIter b' s t1 s1 o1 t2 s2 o2 h1 ho h2 _ ih2 =>
    cases hp
    have hb := ihb h1 hs hok
    have hs1 : s1 ∈ I := by
      apply hclosed
      rw [mem_contOf]
      rcases ho with rfl | rfl
      · exact Or.inl hb.1
      · exact Or.inr hb.1
    have h3 := ih2 rfl hs1
    refine ⟨h3.1, ?_⟩
    intro e he
    rcases List.mem_append.mp he with he | he
    · exact hb.2 e he
    · exact h3.2 e he
  | @loopBrk b' s t s1 h1 _ =>
    cases hp
    have hb := ihb h1 hs hok
    refine ⟨Or.inr ?_, hb.2⟩
    exact List.mem_flatMap.mpr ⟨(s1, .brk), hb.1, by simp [loopOut]⟩
  | @loopOut b' s t s1 o h1 ho _ =>
    cases hp
    have hb := ihb h1 hs hok
    refine ⟨Or.inr ?_, hb.2⟩
    refine List.mem_flatMap.mpr ⟨(s1, o), hb.1, ?_⟩
    cases o with
    | norm => exact absurd rfl ho.1
    | cont => exact absurd rfl ho.2.1
    | brk => exact absurd rfl ho.2.2
    | ret v => simp [loopOut]
    | abort => simp [loopOut]
    | jmp => simp [loopOut]
  | _ => cases hp

/-- **Soundness of the analysis.**  If `reach` reports ok for the set `S`, then every execution of `p` from a
    state of `S` ends in one of the computed (state, outcome) pairs and every event it emits satisfies `P`. -/
theorem reach_sound {H : Havoc} {P : Policy} (p : Stmt) :
    ∀ {S s tr s1 o}, Exec H p s tr s1 o → s ∈ S → (reach H P p S).ok = true →
      (s1, o) ∈ (reach H P p S).outs ∧ ∀ e ∈ tr, P e.site e.kind e.st = true := by
  induction p with
  | skip | ret | brk | cont | abort | jmp =>
    intro S s tr s1 o hx hs _
    cases hx
    exact ⟨List.mem_map.mpr ⟨s, hs, rfl⟩, by intro e he; cases he⟩
  | seq a b iha ihb =>
    intro S s tr s1 o hx hs hok
    simp only [reach, Bool.and_eq_true] at hok
    cases hx with
    | seqN h1 h2 =>
      have ha := iha h1 hs hok.1
      have hb := ihb h2 (mem_normOf.mpr ha.1) hok.2
      refine ⟨?_, ?_⟩
      · simp only [reach]
        rw [mem_dedupP]
        exact List.mem_append.mpr (Or.inr hb.1)
      · intro e he
        rcases List.mem_append.mp he with he | he
        · exact ha.2 e he
        · exact hb.2 e he
    | seqX h1 ho =>
      have ha := iha h1 hs hok.1
      refine ⟨?_, ha.2⟩
      simp only [reach]
      rw [mem_dedupP]
      refine List.mem_append.mpr (Or.inl ?_)
      refine List.mem_filter.mpr ⟨ha.1, ?_⟩
      cases hn : isNorm o
      · rfl
      · exact absurd (isNorm_iff.mp hn) ho
  | ite c t e iht ihe =>
    intro S s tr s1 o hx hs hok
    simp only [reach, Bool.and_eq_true] at hok
    cases hx with
    | iteT hc h1 =>
      have ht := iht h1 (List.mem_filter.mpr ⟨hs, hc⟩) hok.1
      refine ⟨?_, ht.2⟩
      simp only [reach]
      rw [mem_dedupP]
      exact List.mem_append.mpr (Or.inl ht.1)
    | iteF hc h1 =>
      have he := ihe h1 (List.mem_filter.mpr ⟨hs, hc⟩) hok.2
      refine ⟨?_, he.2⟩
      simp only [reach]
      rw [mem_dedupP]
      exact List.mem_append.mpr (Or.inr he.1)
  | set r k =>
    intro S s tr s1 o hx hs _
    cases hx
    refine ⟨?_, by intro e he; cases he⟩
    simp only [reach]
    rw [mem_dedupP]
    exact List.mem_map.mpr ⟨s, hs, rfl⟩
  | havoc r site =>
    intro S s tr s1 o hx hs _
    cases hx with
    | havoc hv =>
      refine ⟨?_, by intro e he; cases he⟩
      simp only [reach]
      rw [mem_dedupP]
      exact List.mem_flatMap.mpr ⟨s, hs, List.mem_map.mpr ⟨_, hv, rfl⟩⟩
  | ev site kind =>
    intro S s tr s1 o hx hs hok
    cases hx
    simp only [reach] at hok
    refine ⟨List.mem_map.mpr ⟨s, hs, rfl⟩, ?_⟩
    intro e he
    have : e = ⟨site, kind, s⟩ := by simpa using he
    subst this
    exact List.all_eq_true.mp hok s hs
  | block b ihb =>
    intro S s tr s1 o hx hs hok
    simp only [reach] at hok
    cases hx with
    | blockJ h1 =>
      have hb := ihb h1 hs hok
      refine ⟨?_, hb.2⟩
      simp only [reach]
      rw [mem_dedupP]
      exact List.mem_map.mpr ⟨(s1, .jmp), hb.1, by simp [unJmp, isJmp, Out.code]⟩
    | blockN h1 ho =>
      have hb := ihb h1 hs hok
      refine ⟨?_, hb.2⟩
      simp only [reach]
      rw [mem_dedupP]
      refine List.mem_map.mpr ⟨(s1, o), hb.1, ?_⟩
      unfold unJmp
      cases hj : isJmp o
      · rfl
      · exact absurd (isJmp_iff.mp hj) ho
  | loop b ihb =>
    intro S s tr s1 o hx hs hok
    simp only [reach, Bool.and_eq_true] at hok
    obtain ⟨⟨hokb, hcl⟩, hin⟩ := hok
    have hsI : s ∈ closure (reach H P b) rounds S := memS_iff.mp (List.all_eq_true.mp hin s hs)
    have hclosed : ∀ s, s ∈ contOf (reach H P b (closure (reach H P b) rounds S)).outs →
        s ∈ closure (reach H P b) rounds S := by
      intro s' hs'
      exact memS_iff.mp (List.all_eq_true.mp hcl s' hs')
    have h := loop_sound (I := closure (reach H P b) rounds S) (fun hx hs hok => ihb hx hs hok) hokb hclosed hx rfl hsI
    refine ⟨?_, h.2⟩
    simp only [reach]
    rw [mem_dedupP]
    exact List.mem_append.mpr h.1

/-- the form used by the property theorems: the analysis is run once, from the function's initial states -/
theorem events_satisfy_policy {H : Havoc} {P : Policy} {p : Stmt} {S : List St}
    (hok : (reach H P p S).ok = true) {s tr s1 o} (hs : s ∈ S) (hx : Exec H p s tr s1 o) :
    ∀ e ∈ tr, P e.site e.kind e.st = true :=
  (reach_sound p hx hs hok).2

theorem outcomes_computed {H : Havoc} {P : Policy} {p : Stmt} {S : List St}
    (hok : (reach H P p S).ok = true) {s tr s1 o} (hs : s ∈ S) (hx : Exec H p s tr s1 o) :
    (s1, o) ∈ (reach H P p S).outs :=
  (reach_sound p hx hs hok).1

theorem outcomes_satisfy {H : Havoc} {P : Policy} {p : Stmt} {S : List St} {f : St × Out → Bool}
    (h : (reach H P p S).ok = true ∧ (reach H P p S).outs.all f = true) {s tr s1 o} (hs : s ∈ S)
    (hx : Exec H p s tr s1 o) : f (s1, o) = true :=
  List.all_eq_true.mp h.2 _ (outcomes_computed h.1 hs hx)

end Nice.Flow
