/-
  An executable reading of the skeleton language of `Nice.Model.Flow`: `run` resolves every nondeterministic choice of `Exec`
  (outcome of an untracked condition, value stored by a havoc, whether a loop goes round again) from an explicit list of
  choices, and `run_exec` proves that whatever it computes IS an execution in the sense of `Exec`: a concrete path through a
  skeleton can be exhibited by evaluation (`demo` below).  The theorems of the property files quantify over `Exec`, i.e. over
  all choices.
-/
import Nice.Model.Flow
namespace Nice.Flow

/-- the value of a condition under the next choices (`orc` consumes one: 0 = false, anything else = true); `none` when the
    choices run out -/
def cevalC : Cond → St → List Nat → Option (Bool × List Nat)
  | .eq r k, s, cs => some (Nat.beq (s.get r) k, cs)
  | .orc _, _, c :: cs => some (c != 0, cs)
  | .orc _, _, [] => none
  | .not c, s, cs => (cevalC c s cs).map fun p => (!p.1, p.2)
  | .and a b, s, cs =>
    match cevalC a s cs with
    | some (true, cs1) => cevalC b s cs1
    | some (false, cs1) => some (false, cs1)
    | none => none
  | .or a b, s, cs =>
    match cevalC a s cs with
    | some (true, cs1) => some (true, cs1)
    | some (false, cs1) => cevalC b s cs1
    | none => none

theorem cevalC_sound (c : Cond) (s : St) (cs : List Nat) (b : Bool) (cs' : List Nat)
    (h : cevalC c s cs = some (b, cs')) : (if b then canT c s else canF c s) = true := by
  fun_induction cevalC c s cs generalizing b cs' <;> cases b <;> simp_all [canT, canT.canF]

structure RunRes where
  tr : List Ev
  st : St
  out : Out
  rest : List Nat

/-- run `p` from `s`; every statement visited costs one unit of `fuel` (so the recursion is structural and the kernel
    can evaluate it) -/
def run (H : Havoc) : Nat → Stmt → St → List Nat → Option RunRes
  | 0, _, _, _ => none
  | _ + 1, .skip, s, cs => some ⟨[], s, .norm, cs⟩
  | f + 1, .seq a b, s, cs =>
    match run H f a s cs with
    | some ⟨t1, s1, .norm, cs1⟩ =>
      (match run H f b s1 cs1 with
       | some ⟨t2, s2, o, cs2⟩ => some ⟨t1 ++ t2, s2, o, cs2⟩
       | none => none)
    | r => r
  | f + 1, .ite c t e, s, cs =>
    match cevalC c s cs with
    | some (true, cs1) => run H f t s cs1
    | some (false, cs1) => run H f e s cs1
    | none => none
  | _ + 1, .set r k, s, cs => some ⟨[], s.set r k, .norm, cs⟩
  | _ + 1, .havoc r site, s, c :: cs =>
    match (H site s)[c]? with
    | some v => some ⟨[], s.set r v, .norm, cs⟩
    | none => none
  | _ + 1, .havoc _ _, _, [] => none
  | _ + 1, .ev site kind, s, cs => some ⟨[⟨site, kind, s⟩], s, .norm, cs⟩
  | _ + 1, .ret v, s, cs => some ⟨[], s, .ret v, cs⟩
  | _ + 1, .brk, s, cs => some ⟨[], s, .brk, cs⟩
  | _ + 1, .cont, s, cs => some ⟨[], s, .cont, cs⟩
  | _ + 1, .abort, s, cs => some ⟨[], s, .abort, cs⟩
  | _ + 1, .jmp, s, cs => some ⟨[], s, .jmp, cs⟩
  | f + 1, .block b, s, cs =>
    match run H f b s cs with
    | some ⟨t, s1, .jmp, cs1⟩ => some ⟨t, s1, .norm, cs1⟩
    | r => r
  | f + 1, .loop b, s, c :: cs =>
    if c == 0 then some ⟨[], s, .norm, cs⟩ else
    match run H f b s cs with
    | some ⟨t1, s1, .norm, cs1⟩ | some ⟨t1, s1, .cont, cs1⟩ =>
      (match run H f (.loop b) s1 cs1 with
       | some ⟨t2, s2, o, cs2⟩ => some ⟨t1 ++ t2, s2, o, cs2⟩
       | none => none)
    | some ⟨t1, s1, .brk, cs1⟩ => some ⟨t1, s1, .norm, cs1⟩
    | r => r
  | _ + 1, .loop _, _, [] => none

/- The cases are the equations of `run` in the order written (`fun_induction` numbers them): 3, 5 `seq` (first part ends
   normally / otherwise), 6, 7 `ite`, 10 `havoc`, 19, 20 `block` (`jmp` / otherwise), 22, 24, 26, 27 `loop` (body ends by
   norm / cont / brk / anything else); the remaining ones are axioms of `Exec` or have `none` on the left. -/
theorem run_exec (H : Havoc) : ∀ (f : Nat) (p : Stmt) (s : St) (cs : List Nat) (r : RunRes),
    run H f p s cs = some r → Exec H p s r.tr r.st r.out := by
  intro f p s cs
  fun_induction run H f p s cs <;> intro r h
  all_goals try (simp only [Option.some.injEq] at h; subst h)
  all_goals try (first | exact Exec.skip _ | exact Exec.set _ _ _ | exact Exec.ev _ _ _ | exact Exec.ret _ _ | exact Exec.brk _
                       | exact Exec.cont _ | exact Exec.abort _ | exact Exec.jmp _ | exact Exec.loopExit _ _)
  all_goals try (cases h; done)
  case case3 x1 _ _ _ _ x2 ih2 ih1 => exact Exec.seqN (ih2 _ x1) (ih1 _ x2)
  case case5 hno ih1 => exact Exec.seqX (ih1 r h) fun ho => hno r.tr r.st r.rest (ho ▸ h)
  case case6 x ih1 => exact Exec.iteT (by simpa using cevalC_sound _ _ _ _ _ x) (ih1 r h)
  case case7 x ih1 => exact Exec.iteF (by simpa using cevalC_sound _ _ _ _ _ x) (ih1 r h)
  case case10 x => exact Exec.havoc (List.mem_of_getElem? x)
  case case19 x ih1 => exact Exec.blockJ (ih1 _ x)
  case case20 hno ih1 => exact Exec.blockN (ih1 r h) fun ho => hno r.tr r.st r.rest (ho ▸ h)
  case case22 _ _ _ _ x1 _ _ _ _ x2 ih2 ih1 => exact Exec.loopIter (ih2 _ x1) (Or.inl rfl) (ih1 _ x2)
  case case24 _ _ _ _ x1 _ _ _ _ x2 ih2 ih1 => exact Exec.loopIter (ih2 _ x1) (Or.inr rfl) (ih1 _ x2)
  case case26 _ _ _ _ x ih1 => exact Exec.loopBrk (ih1 _ x)
  case case27 _ hn hc hb ih1 =>
    exact Exec.loopOut (ih1 r h) ⟨fun ho => hn r.tr r.st r.rest (ho ▸ h), fun ho => hc r.tr r.st r.rest (ho ▸ h),
      fun ho => hb r.tr r.st r.rest (ho ▸ h)⟩

/-! a small fixed program: validate, gate, effect — the run with choices [0] (validation returns the first allowed value) is an
    execution, and it emits the effect in a state whose register 0 is that value -/
def demo : Stmt := .seq (.havoc 0 1) (.seq (.ite (.not (.eq 0 7)) (.ret 0) .skip) (.ev 9 0))
example : (run (fun _ _ => [7, 3]) 8 demo {} [0]).map (fun r => (r.tr.map (·.st.r0), r.out)) = some ([7], .norm) := by decide
example : ∃ tr σ o, Exec (fun _ _ => [7, 3]) demo {} tr σ o ∧ tr.length = 1 :=
  ⟨_, _, _, run_exec _ 8 demo {} [0] _ rfl, rfl⟩
end Nice.Flow
