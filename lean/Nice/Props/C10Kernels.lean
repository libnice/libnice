import Nice.Gen.Kernels
import Nice.Model.PTcp
/-! # C08/C09/C10: the pseudo-TCP model's state predicates and ring accounting ARE the code's

The hand-written segment-level model (`Nice.Model.PTcp`) decides "has this socket sent / received a FIN / a FIN-ACK"
with `hasSentFin`, `hasReceivedFin`, `hasReceivedFinAck`, and computes send/receive room with `Fifo.getBuffered` /
`Fifo.getWriteRemaining`.  The C functions they stand for — `pseudo_tcp_state_has_sent_fin`,
`pseudo_tcp_state_has_received_fin`, `pseudo_tcp_state_has_received_fin_ack`, `pseudo_tcp_fifo_get_buffered`,
`pseudo_tcp_fifo_get_write_remaining` — are REGENERATED from agent/pseudotcp.c on every run (`tools/extract.py`
KERNELS / FIELD_KERNELS).  The theorems below prove, for every state and every ring, that the model's definitions
equal the regenerated ones, so an edit of one of those switch tables or of the ring arithmetic breaks a proof
obligation here (in addition to the differential tie), and they state the facts about them that the stream /
progress theorems rely on. -/
namespace Nice.Props.C10Kernels
open Nice.Gen Nice.PTcp

theorem C10_model_has_sent_fin_is_code (st : TcpState) :
    (pseudo_tcp_state_has_sent_fin (UInt32.ofNat st.toNat) != 0) = hasSentFin st := by
  cases st <;> decide

theorem C10_model_has_received_fin_is_code (st : TcpState) :
    (pseudo_tcp_state_has_received_fin (UInt32.ofNat st.toNat) != 0) = hasReceivedFin st := by
  cases st <;> decide

theorem C10_model_has_received_fin_ack_is_code (st : TcpState) :
    (pseudo_tcp_state_has_received_fin_ack (UInt32.ofNat st.toNat) != 0) = hasReceivedFinAck st := by
  cases st <;> decide

/-- **on the regenerated code, for every 32-bit value of the state field** (not only the eleven enumerators):
    a socket that has seen the peer's FIN-ACK has both sent its own FIN and received the peer's — the order the
    end-of-stream theorems of C08 (`recv()==0` only after everything was read) and the give-up rule of C09 build on. -/
theorem C10_fin_ack_implies_both_fins (state : UInt32)
    (h : pseudo_tcp_state_has_received_fin_ack state ≠ 0) :
    pseudo_tcp_state_has_sent_fin state ≠ 0 ∧ pseudo_tcp_state_has_received_fin state ≠ 0 := by
  unfold pseudo_tcp_state_has_received_fin_ack at h
  split at h
  · exact absurd rfl h
  · split at h
    · rename_i h4
      simp only [Bool.or_eq_true, beq_iff_eq] at h4
      rcases h4 with h4 | h4 <;> subst h4 <;> decide
    · exact absurd rfl h

/-- a state in which no FIN has been sent or received is one of the five pre-close states: the predicates never
    answer TRUE for LISTEN, SYN-SENT, SYN-RECEIVED or ESTABLISHED (so data transfer is never mistaken for closing) -/
theorem C10_open_states_have_no_fin (st : TcpState)
    (h : st = .listen ∨ st = .synSent ∨ st = .synReceived ∨ st = .established) :
    pseudo_tcp_state_has_sent_fin (UInt32.ofNat st.toNat) = 0 ∧
    pseudo_tcp_state_has_received_fin (UInt32.ofNat st.toNat) = 0 ∧
    pseudo_tcp_state_has_received_fin_ack (UInt32.ofNat st.toNat) = 0 := by
  rcases h with h | h | h | h <;> subst h <;> decide

theorem C10_model_write_remaining_is_code (b : Fifo) (hc : b.cap < 2 ^ 64) (hd : b.data < 2 ^ 64) :
    (fifo_get_write_remaining (UInt64.ofNat b.cap) (UInt64.ofNat b.data)).toNat = b.getWriteRemaining := by
  unfold fifo_get_write_remaining Fifo.getWriteRemaining gsub
  rw [UInt64.toNat_sub, UInt64.toNat_ofNat_of_lt' hc, UInt64.toNat_ofNat_of_lt' hd]
  show (18446744073709551616 - b.data + b.cap) % 18446744073709551616 = _
  have : b.data % 2 ^ 64 = b.data := Nat.mod_eq_of_lt hd
  rw [this]
  show _ = (b.cap + 18446744073709551616 - b.data) % 18446744073709551616
  omega

theorem C10_model_buffered_is_code (b : Fifo) (hd : b.data < 2 ^ 64) :
    (fifo_get_buffered (UInt64.ofNat b.data)).toNat = b.getBuffered := by
  unfold fifo_get_buffered Fifo.getBuffered
  exact UInt64.toNat_ofNat_of_lt' hd

/-- **no wrap under the ring invariant**: while `data_length ≤ buffer_length` (part of `Inv0`, proved for every
    history in `Props/C10`), buffered + room = capacity exactly, on the regenerated arithmetic -/
theorem C10_buffered_plus_room_is_capacity (cap data : UInt64) (h : data ≤ cap) :
    (fifo_get_buffered data).toNat + (fifo_get_write_remaining cap data).toNat = cap.toNat := by
  unfold fifo_get_buffered fifo_get_write_remaining
  rw [UInt64.toNat_sub_of_le _ _ h]
  have := UInt64.le_iff_toNat_le.mp h
  omega

/-- `pseudo_tcp_socket_is_closed_remotely` in the model answers what the regenerated predicate answers on the state field -/
theorem C10_is_closed_remotely_is_code (s : Sock) :
    isClosedRemotely s = (pseudo_tcp_state_has_received_fin (UInt32.ofNat s.state.toNat) != 0) := by
  unfold isClosedRemotely
  exact (C10_model_has_received_fin_is_code s.state).symm

/-- `pseudo_tcp_socket_get_available_send_space` in the model, written with the regenerated kernels only: no room is
    offered once our FIN is out, otherwise exactly the ring's room -/
theorem C10_available_send_space_is_code (s : Sock) (hc : s.sbuf.cap < 2 ^ 64) (hd : s.sbuf.data < 2 ^ 64) :
    (getAvailableSendSpace s).1 =
      (if pseudo_tcp_state_has_sent_fin (UInt32.ofNat s.state.toNat) != 0 then 0
       else (fifo_get_write_remaining (UInt64.ofNat s.sbuf.cap) (UInt64.ofNat s.sbuf.data)).toNat) := by
  unfold getAvailableSendSpace
  rw [C10_model_has_sent_fin_is_code, C10_model_write_remaining_is_code _ hc hd]
  cases hasSentFin s.state <;> simp

/-- a socket that reports "closed remotely" never reports it while still in a data-transfer state, and a socket whose
    FIN is out offers no send space (the two public answers applications use to stop reading / writing) -/
theorem C10_no_send_space_after_fin (s : Sock) (h : hasSentFin s.state = true) :
    (getAvailableSendSpace s).1 = 0 ∧ (canSend s).1 = false := by
  unfold canSend getAvailableSendSpace
  simp [h]

/-- … and without the invariant the room wraps -/
example : (fifo_get_write_remaining 4 5).toNat = 2 ^ 64 - 1 := by decide

-- in the code's numbering 4 = CLOSED, 8 = TIME-WAIT, 9 = CLOSE-WAIT
example : pseudo_tcp_state_has_received_fin_ack 4 = 1 ∧ pseudo_tcp_state_has_received_fin_ack 8 = 1
    ∧ pseudo_tcp_state_has_sent_fin 9 = 0 ∧ pseudo_tcp_state_has_received_fin 9 = 1 := by decide

end Nice.Props.C10Kernels
