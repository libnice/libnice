/-
  C11 — Component states follow the documented machine (choke-point part).
-/
import Nice.Model.CompState
import Nice.Props.C11GatheringDone  -- for checks/C11.py, which builds this module
namespace Nice.Props.C11
open Nice.CompState Nice.Gen

/-- **C11_whitelist_is_documented.**  The transitions the code's assertion admits (regenerated from
    the current source) are exactly the documented ones (states.gv, regenerated, plus the two
    families documented in the assertion's comments).  Widening or narrowing either side breaks this. -/
theorem C11_whitelist_is_documented :
    ∀ o n : Fin 6, o ≠ n → (allowed o.val n.val = documented o.val n.val) := by decide

theorem signal_state (cur new : State) :
    (signal cur new).1 = (match (signal cur new).2 with
                          | .announced s => s | _ => cur) := by
  unfold signal; split
  · rfl
  · split <;> rfl

/-- chain: every consecutive pair of `prev :: l` is an allowed transition between distinct states -/
def Chain (prev : State) : List State → Prop
  | [] => True
  | s :: l => prev ≠ s ∧ allowed prev s = true ∧ Chain s l

def lastOr (prev : State) : List State → State
  | [] => prev
  | s :: l => lastOr s l

/-- **C11_announced_sequence.**  For EVERY sequence of requested states: the announced sequence
    never repeats a state, every step is in the whitelist, and the component's state (what the
    getter returns) is the last announced state — or the run stopped on the assertion; never a
    silent bad transition. -/
theorem C11_announced_sequence (reqs : List State) :
    ∀ cur, Chain cur (run cur reqs).2.1 ∧
      ((run cur reqs).2.2 = false → (run cur reqs).1 = lastOr cur (run cur reqs).2.1) := by
  induction reqs with
  | nil => intro cur; simp [run, Chain, lastOr]
  | cons n ns ih =>
    intro cur
    unfold run
    unfold signal
    by_cases h1 : n = cur
    · simp only [h1, if_true]; exact ih cur
    · simp only [h1, if_false]
      by_cases h2 : allowed cur n = true
      · simp only [h2, if_true]
        obtain ⟨hc, hl⟩ := ih n
        refine ⟨⟨fun e => h1 e.symm, h2, hc⟩, ?_⟩
        intro hb
        exact hl hb
      · simp only [h2]
        simp [Chain]

theorem C11_announced_is_documented (o n : Fin 6) (h : o ≠ n) (ha : allowed o.val n.val = true) :
    documented o.val n.val = true := by
  rw [← C11_whitelist_is_documented o n h]; exact ha

example : (run 0 [1, 1, 2, 3, 4, 4, 3, 4]).2.1 = [1, 2, 3, 4, 3, 4] := by decide
example : (run 4 [1]).2.1 = [1] := by decide            -- restart from READY
example : (run 1 [4]).2.2 = true := by decide           -- GATHERING → READY is not allowed: assertion

end Nice.Props.C11
