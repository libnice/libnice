/-
  C07, usage-level builders: they propagate lack of space.  (The C07 check audits this module, which
  re-exports everything of Nice.Props.C07.)
-/
import Nice.Props.C07
namespace Nice.Props.C07
open Nice.Stun Nice.Spec.Stun Nice.Gen

/-- The usage-level builders (binding request, binding keepalive, ICE connectivity check) propagate
    NOT_ENOUGH_SPACE: whatever they return is 0 — some append, the initialisation or the finish did
    not fit; the buffer keeps its size — or the length, within the caller's buffer, of a finished
    message in a well-formed builder state (which passes the library's validation and the independent
    parser, `built_wellformed`).  Capacities 0..65535; HMAC returns 20 bytes; SOFTWARE valid UTF-8. -/
theorem C07_usage_builders_propagate (H : Hashes) (hH : ∀ k t, (H.hmac k t).size = 20) (ag ag' : Agent)
    (buf id : Bytes) (r : Nat) (m : Msg) (hsw : SoftwareOk ag) (hcap : buf.size ≤ 65535) :
    (bindCreate H ag buf id = .ok (r, ag', m) → BuilderResult ag buf.size r m) ∧
    (bindKeepalive H ag buf id = .ok (r, ag', m) → BuilderResult ag buf.size r m) ∧
    (∀ username password candUse controlling priority tie candidateId compat,
      (∀ u, username = some u → u.size < 2 ^ 63) → (∀ c, candidateId = some c → c.size < 2 ^ 62) →
      iceConncheckCreate H ag buf id username password candUse controlling priority tie candidateId compat =
        .ok (r, ag', m) → BuilderResult ag buf.size r m) :=
  ⟨fun h => of_total (bindCreate_good H hH ag buf id hsw hcap) h,
   fun h => of_total (bindKeepalive_good H hH ag buf id hcap) h,
   fun username password candUse controlling priority tie candidateId compat hu hc h =>
     of_total (iceConncheckCreate_good H hH ag buf id username password candUse controlling priority tie
       candidateId compat hsw hcap hu hc) h⟩

/-- non-vacuity: the default agent (no SOFTWARE string set: PACKAGE_STRING is used) satisfies `SoftwareOk` -/
example : SoftwareOk (agentInit [] 1 0) := ⟨7, by rfl, by decide, by decide⟩

end Nice.Props.C07
