/-
  C06 — STUN framing and attribute lookup agree with the RFC grammar.
  Theorems about `Nice.Stun` (model of stun/stunmessage.c) against the independent reference
  `Nice.Spec.Stun` (RFC 5389 §6/§15), for all inputs (the lookup theorem: for all packets below 64 KiB).
-/
import Nice.Proofs.StunFind
import Nice.Props.C03Recv   -- for checks/C06.py, which audits `C03Recv.demux_same_padding` through this module
namespace Nice.Props.C06
open Nice.Stun Nice.Spec.Stun

/-- The length check reports `L` exactly when the first `L` bytes form a well-formed STUN message
    (two top bits zero, `L` = 20 + header length field, `L` a multiple of four where padding
    applies, attributes tiling the body exactly). -/
theorem C06_length_iff_grammar (bs : Bytes) (pad : Bool) (L : Nat) :
    validateLen bs pad = .ok (.len L) ↔ WellFormed pad bs.toList L :=
  validateLen_iff_wellFormed

/-- The length check reports "incomplete" exactly when the first two bits are zero and fewer bytes
    are present than an acceptable header announces. -/
theorem C06_incomplete_iff (bs : Bytes) (pad : Bool) :
    validateLen bs pad = .ok .incomplete ↔ Incomplete pad bs.toList := by
  rw [← headVerdict_incomplete_iff, validateLen_eq]
  cases headVerdict bs.toList pad with
  | invalid => simp
  | incomplete => simp
  | len L' => simp only [Except.ok.injEq]; split <;> simp

/-- the walk over the attributes terminates (it is a total Lean function with a `termination_by`
    proof) and never reads outside the buffer: neither validator ever faults -/
theorem C06_walk_terminates_no_fault (bs : Bytes) (pad : Bool) : ∃ r, validateLen bs pad = .ok r :=
  ⟨_, validateLen_eq bs pad⟩

/-- concatenation of the receive buffers -/
def flatten (bufs : Array Bytes) : Bytes := (FL bufs.toList).toArray

/-- The vectored header pre-check gives the same answer for every way of splitting the same bytes
    over buffers — empty buffers included (after fix 669dd63) — as for one contiguous buffer. -/
theorem C06_fast_split_independent_with_empties (bufs : Array Bytes) (pad : Bool) :
    validateFast bufs (flatten bufs).size pad = validateFast #[flatten bufs] (flatten bufs).size pad := by
  have h1 := validateFast_eq bufs pad
  have h2 := validateFast_single (flatten bufs) pad
  simp only [flatten, List.size_toArray] at *
  rw [h1, h2]

/-- the property's quantifier: splits into non-empty buffers -/
theorem C06_fast_split_independent (bufs : Array Bytes) (pad : Bool)
    (_hne : ∀ i (h : i < bufs.size), bufs[i].size ≠ 0) :
    validateFast bufs (flatten bufs).size pad = validateFast #[flatten bufs] (flatten bufs).size pad :=
  C06_fast_split_independent_with_empties bufs pad

/-- whenever the full check accepts with length `L`, the vectored pre-check says `L` for every
    split of the same bytes (agent.c:4820-4837 relies on it) -/
theorem C06_fast_agrees_with_full (bs : Bytes) (pad : Bool) (L : Nat)
    (h : validateLen bs pad = .ok (.len L)) (bufs : Array Bytes) (hsplit : flatten bufs = bs) :
    validateFast bufs bs.size pad = .ok (.len L) := by
  have hf := (validateLen_len.mp h).1
  rw [← hsplit] at hf ⊢
  rw [C06_fast_split_independent_with_empties, validateFast_single, hf]

/-- Attribute lookups return the first attribute of the requested type that the independent parser
    finds, honouring "nothing but FINGERPRINT follows MESSAGE-INTEGRITY" — for every packet the
    length check accepts as a whole.  (`pkt.size < 65536`: `stun_message_length` is a `uint16_t`;
    a 65536..65555-byte message is accepted by the length check but its length wraps — outside the
    property's 2 KiB range and outside any UDP datagram.) -/
theorem C06_find_is_reference (a : Option Cfg) (pkt : Bytes) (t : UInt16)
    (hv : validateLen pkt (!noAlign a) = .ok (.len pkt.size)) (hsz : pkt.size < 65536) :
    ∃ attrs, parseAttrs (!noAlign a) pkt.toList = some attrs ∧
      (find a pkt t).map (Option.map fun r => (r.1, r.2.toNat)) =
        .ok ((refFind (swapRealmNonce (isOC2007 a) t.toNat) attrs).map fun at_ => (at_.off, at_.len)) := by
  have hwf := validateLen_iff_wellFormed.mp hv
  have hB := built_of_wellFormed hwf hsz
  have hw : (UInt16.ofNat pkt.size).toNat = pkt.size := UInt16.toNat_ofNat_of_lt' hsz
  obtain ⟨as, hwalk⟩ := hB.walk
  refine ⟨as, ?_, ?_⟩
  · rw [parseAttrs_eq hwf, drop_take_toList, ← hw]
    exact parse_of_walk hB.le_size hwalk
  · rw [find_walk t hB hwalk, refFind_eq_rec, swapType_toNat]
    cases hx : refFindRec (swapRealmNonce (isOC2007 a) t.toNat) as with
    | none => rfl
    | some x =>
      simp only [Except.map, Option.map]
      rw [UInt16.toNat_ofNat_of_lt' (hwalk.inside x (refFindRec_mem hx)).2.2]

/-! ### non-vacuity: the hypotheses above are satisfiable -/

/-- a 20-byte binding request header -/
def hdr20 : Bytes := #[0, 1, 0, 0, 0x21, 0x12, 0xa4, 0x42, 0, 0, 0, 0, 0, 0, 0, 0, 0, 0, 0, 1]
/-- binding request with one PRIORITY attribute (0x0024, 4 bytes) -/
def msg28 : Bytes := hdr20.set! 3 8 ++ #[0, 0x24, 0, 4, 0, 0, 0, 7]

example : WellFormed true hdr20.toList 20 :=
  ⟨0, 1, 0, 0, _, rfl, by decide, by decide, fun _ => by decide, by decide, Tiles.nil⟩

theorem hdr20_valid : validateLen hdr20 true = .ok (.len 20) :=
  (C06_length_iff_grammar _ _ _).mpr
    ⟨0, 1, 0, 0, _, rfl, by decide, by decide, fun _ => by decide, by decide, Tiles.nil⟩

example : validateLen hdr20 true = .ok (.len 20) := hdr20_valid

theorem msg28_wf : WellFormed true msg28.toList 28 :=
  ⟨0, 1, 0, 8, _, rfl, by decide, by decide, fun _ => by decide, by decide,
    Tiles.cons 0 0x24 0 4 [0, 0, 0, 7] [] [] (by decide) (by decide) Tiles.nil⟩

example : validateLen msg28 true = .ok (.len msg28.size) := (C06_length_iff_grammar _ _ _).mpr msg28_wf

/-- the lookup theorem applies to `msg28` and finds PRIORITY at offset 24 -/
example : ∃ attrs, parseAttrs true msg28.toList = some attrs ∧
    (find none msg28 0x24).map (Option.map fun r => (r.1, r.2.toNat)) = .ok (some (24, 4)) := by
  obtain ⟨attrs, hp, hf⟩ := C06_find_is_reference none msg28 0x24
    ((C06_length_iff_grammar _ _ _).mpr msg28_wf) (by decide)
  refine ⟨attrs, hp, ?_⟩
  rw [hf]
  have hl : msg28.toList = [0, 1, 0, 8, 0x21, 0x12, 0xa4, 0x42, 0, 0, 0, 0, 0, 0, 0, 0, 0, 0, 0, 1,
      0, 0x24, 0, 4, 0, 0, 0, 7] := by decide
  have : parseAttrs true msg28.toList = some [⟨0x24, 24, 4⟩] := by
    rw [hl]; simp [parseAttrs, parseFrom, be16, padLen, pad4]
  rw [show (!noAlign none) = true from rfl, this] at hp
  have hp' := Option.some.inj hp
  rw [← hp']
  simp [refFind, visibleFor, swapRealmNonce, isOC2007, FINGERPRINT, MESSAGE_INTEGRITY]

example : Incomplete true (hdr20.extract 0 3).toList :=
  ⟨0, [1, 0], rfl, by decide, Or.inl (by decide)⟩

/-- a split with empty buffers: [ ] [00 01] [ ] [00] [00 21 12 ...] -/
example : flatten #[#[], #[0, 1], #[], #[0], hdr20.extract 3 20] = hdr20 := by decide

end Nice.Props.C06
