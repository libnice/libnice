/-
  C14 — ICE restart issues fresh, well-formed credentials and forgets the previous session.
  Kernels only; re-convergence after restart is C01's simulation.
-/
import Nice.Model.Creds
import Nice.Props.C14Restart  -- for checks/C14.py, which builds this module
namespace Nice.Props.C14
open Nice.Creds Nice.Gen

/-- `String.toList` of the 64-character literal is dear for the kernel: it is evaluated here and nowhere else -/
theorem alphabet_eq : alphabet =
    ['A', 'B', 'C', 'D', 'E', 'F', 'G', 'H', 'I', 'J', 'K', 'L', 'M', 'N', 'O', 'P', 'Q', 'R', 'S', 'T', 'U', 'V',
     'W', 'X', 'Y', 'Z', 'a', 'b', 'c', 'd', 'e', 'f', 'g', 'h', 'i', 'j', 'k', 'l', 'm', 'n', 'o', 'p', 'q', 'r',
     's', 't', 'u', 'v', 'w', 'x', 'y', 'z', '0', '1', '2', '3', '4', '5', '6', '7', '8', '9', '+', '/'] := by
  simp [alphabet, rng_print_chars]

theorem alphabet_length : alphabet.length = 64 := by rw [alphabet_eq]; rfl
theorem alphabet_ice : ∀ c ∈ alphabet, isIceChar c = true := by rw [alphabet_eq]; decide
-- as code points: the kernel decides equality of `Nat` literals cheaply, that of `Char` not
theorem alphabet_nodup : alphabet.Nodup := by
  rw [alphabet_eq]
  refine List.Pairwise.of_map (S := (· ≠ ·)) Char.toNat (fun _ _ h e => h (e ▸ rfl)) ?_
  decide

theorem genPrint_length (draw : Nat → Nat) (n : Nat) : (genPrint draw n).length = n := by
  simp [genPrint]

-- for any list: with `alphabet` in its place the table is unfolded again
theorem getD_mem {α} (l : List α) (k : Nat) (h : k < l.length) (d : α) : l.getD k d ∈ l := by
  rw [List.getD_eq_getElem?_getD, List.getElem?_eq_getElem h]
  exact List.getElem_mem h

theorem genPrint_mem (draw : Nat → Nat) (n : Nat) : ∀ c ∈ genPrint draw n, c ∈ alphabet := by
  intro c hc
  simp only [genPrint, List.mem_map, List.mem_range] at hc
  obtain ⟨i, _, rfl⟩ := hc
  exact getD_mem _ _ (Nat.mod_lt _ (alphabet_length ▸ (by decide : 0 < 64))) _

/-- **C14_credentials_wellformed.**  For EVERY output of the random generator the new credentials
    have the configured lengths (ufrag 4 ≥ 4, password 22 ≥ 22, as ICE requires) over `ice-char`. -/
theorem C14_credentials_wellformed (draw : Nat → Nat) :
    (initCredentials draw).ufrag.length = 4 ∧ (initCredentials draw).pwd.length = 22 ∧
    (∀ c ∈ (initCredentials draw).ufrag, isIceChar c = true) ∧
    (∀ c ∈ (initCredentials draw).pwd, isIceChar c = true) :=
  ⟨genPrint_length _ _, genPrint_length _ _, fun c hc => alphabet_ice c (genPrint_mem _ _ c hc),
    fun c hc => alphabet_ice c (genPrint_mem _ _ c hc)⟩

/-- **C14_credentials_are_rng.**  The credentials are an injective image of the generator's draws:
    two runs give the same password only if all 22 draws coincide modulo 64.  (Freshness itself is
    therefore exactly the freshness of the RNG — probabilistic, measured in simulation.) -/
theorem C14_credentials_are_rng (d1 d2 : Nat → Nat) (n : Nat) (h : genPrint d1 n = genPrint d2 n) :
    ∀ i < n, d1 i % 64 = d2 i % 64 := by
  intro i hi
  have h1 := congrArg (fun l => l[i]?) h
  simp only [genPrint, List.getElem?_map, List.getElem?_range hi, Option.map_some, alphabet_length] at h1
  have hlt : ∀ d : Nat → Nat, d i % 64 < alphabet.length := fun d => by
    rw [alphabet_length]; exact Nat.mod_lt _ (by decide)
  -- the alphabet lookup is injective on 0..63
  exact (List.getD_inj (hlt d1) (hlt d2) alphabet_nodup).mp (Option.some.inj h1)

/-- **C14_restart_forgets.**  After a restart nothing of the previous remote side is left and every
    component is announced GATHERING again. -/
theorem C14_restart_forgets (s : StreamSt) (draw : Nat → Nat) :
    (restart s draw).remoteCands = [] ∧ (restart s draw).checkList = [] ∧
    (restart s draw).remoteUfrag = [] ∧ (restart s draw).remotePwd = [] ∧
    (restart s draw).compStates.length = s.compStates.length ∧
    (∀ st ∈ (restart s draw).compStates, st = NICE_COMPONENT_STATE_GATHERING) := by
  refine ⟨rfl, rfl, rfl, rfl, by simp [restart], ?_⟩
  intro st hst
  simp only [restart, List.mem_map] at hst
  obtain ⟨_, _, rfl⟩ := hst; rfl

example : (initCredentials (fun i => i * 7)).ufrag = ['A', 'H', 'O', 'V'] := by
  simp only [initCredentials, genPrint, alphabet_eq]; decide
example : isIceChar '+' = true ∧ isIceChar ' ' = false := by decide

end Nice.Props.C14
