/-
  C14 — what a restart has done by the time it returns, proved about obligation skeletons REGENERATED from agent/stream.c on
  every run (tools/extract_flow.py, `Nice.Model.Flow`): a register is set when an obliged call / store executes; every return
  is reached with all of them set.

  * nice_stream_initialize_credentials: a fresh local ufrag AND password were generated and the remote ufrag AND password were
    cleared (so a check authenticated with pre-restart credentials cannot match — clause (a)/(b) of C14);
  * nice_stream_restart: the stream's checks were pruned and its credentials re-initialised; and every iteration of its loop
    over the components restarts the component AND announces it GATHERING (clause (c)).
-/
import Nice.Gen.InitCredentials
import Nice.Gen.StreamRestart
import Nice.Proofs.FlowEval
namespace Nice.Props.C14Restart
open Nice.Flow

def hv : Havoc := fun _ _ => [0, 1]
def anyEvent : Policy := fun _ _ _ => true
def fresh : List St := [{}]

def allSet (n : Nat) (σ : St) : Bool := (List.range n).all fun k => σ.get k == 1

/-- `.norm`: a void function falling off its end -/
def retAll (n : Nat) (p : St × Out) : Bool := match p.2 with | .ret _ | .norm => allSet n p.1 | _ => false

theorem creds_ok : (reach hv anyEvent Nice.Gen.InitCredentials.prog fresh).ok = true ∧
    ((reach hv anyEvent Nice.Gen.InitCredentials.prog fresh).outs.all (retAll 4)) = true := by
  rw [reach_ok_eq, reach_all_eq]; decide +kernel

theorem restart_ok : (reach hv anyEvent Nice.Gen.StreamRestart.prog fresh).ok = true ∧
    ((reach hv anyEvent Nice.Gen.StreamRestart.prog fresh).outs.all (retAll 2)) = true := by
  rw [reach_ok_eq, reach_all_eq]; decide +kernel

theorem restart_body_ok : (reach hv anyEvent Nice.Gen.StreamRestart.loopBody fresh).ok = true ∧
    ((reach hv anyEvent Nice.Gen.StreamRestart.loopBody fresh).outs.all
      fun p => (p.2 == .norm || p.2 == .cont) && p.1.r2 == 1 && p.1.r3 == 1) = true := by
  rw [reach_ok_eq, reach_all_eq]; decide +kernel

/-- **C14_credentials_reinitialised.**  Every way nice_stream_initialize_credentials ends has generated a new local
    ufrag (r0) and password (r1) and cleared the remote ufrag (r2) and password (r3). -/
theorem C14_credentials_reinitialised {tr : List Ev} {σ1 : St} {o : Out}
    (hx : Exec hv Nice.Gen.InitCredentials.prog {} tr σ1 o) :
    σ1.r0 = 1 ∧ σ1.r1 = 1 ∧ σ1.r2 = 1 ∧ σ1.r3 = 1 := by
  have := outcomes_satisfy creds_ok (List.mem_singleton.mpr rfl) hx
  cases o <;> simp [retAll, allSet, St.get, List.range, List.range.loop] at this <;> exact this

theorem C14_restart_prunes_and_reinitialises {tr : List Ev} {σ1 : St} {o : Out}
    (hx : Exec hv Nice.Gen.StreamRestart.prog {} tr σ1 o) : σ1.r0 = 1 ∧ σ1.r1 = 1 := by
  have := outcomes_satisfy restart_ok (List.mem_singleton.mpr rfl) hx
  cases o <;> simp [retAll, allSet, St.get, List.range, List.range.loop] at this <;> exact this

/-- **C14_every_component_restarted_and_announced.**  One iteration of the loop over the components always completes
    (no early exit) having called nice_component_restart (r2) and announced GATHERING (r3). -/
theorem C14_every_component_restarted_and_announced {tr : List Ev} {σ1 : St} {o : Out}
    (hx : Exec hv Nice.Gen.StreamRestart.loopBody {} tr σ1 o) :
    (o = .norm ∨ o = .cont) ∧ σ1.r2 = 1 ∧ σ1.r3 = 1 := by
  have := outcomes_satisfy restart_body_ok (List.mem_singleton.mpr rfl) hx
  simp only [Bool.and_eq_true, Bool.or_eq_true, beq_iff_eq] at this
  exact ⟨this.1.1, this.1.2, this.2⟩

end Nice.Props.C14Restart
