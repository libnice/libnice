/-
  C19 — STUN retransmission timers follow the configured schedule exactly.
  Theorems about `Nice.Timer` (model of stun/usages/timer.c).
-/
import Nice.Model.Timer
import Nice.Props.C19Tick  -- for checks/C19.py, which builds this module
namespace Nice.Props.C19
open Nice.Timer

/-- run a timer over an arbitrary sequence of poll instants (µs); results oldest first -/
def run (t : Timer) : List Nat → Timer × List Ret
  | [] => (t, [])
  | p :: ps => let (t', r) := refresh t p
               let (t'', rs) := run t' ps
               (t'', r :: rs)

-- the counter starts at 1: `N = 0` (stun_timer_start_reliable) acts as `N = 1`
def nEff (N : UInt32) : Nat := max N.toNat 1

/-- the wait in force after the k-th transmission (k ≥ 1), per timer.h -/
def specDelay (T : Nat) (N : Nat) (k : Nat) : Nat :=
  if k < N then T * 2 ^ (k - 1) else if 2 ≤ N then T * 2 ^ (N - 2) / 2 else T

/-- the counters: independent of the delay arithmetic -/
structure InvC (N : UInt32) (t : Timer) : Prop where
  max_eq : t.maxRetrans = N
  lo : 1 ≤ t.retrans.toNat
  hi : t.retrans.toNat ≤ nEff N

/-- reachable-state invariant, started with (T, N) -/
structure Inv (T N : UInt32) (t : Timer) : Prop extends InvC N t where
  delay_eq : t.delay.toNat = specDelay T.toNat (nEff N) t.retrans.toNat

def deadlineUs (t : Timer) : Nat := t.dlSec * 1000000 + t.dlUsec

theorem setDelay_value (now : Nat) (d : UInt32) :
    (setDelay now d).1 * 1000000 + (setDelay now d).2 = now + d.toNat * 1000 := by
  unfold setDelay
  simp only
  split <;> simp only <;> omega

theorem setDelay_usec_le (now : Nat) (d : UInt32) : (setDelay now d).2 ≤ 1000000 := by
  unfold setDelay
  simp only
  split <;> simp only <;> omega

/-- hypothesis under which `delay * 2` never wraps: T·2^(N-1) < 2^32 -/
def NoOverflow (T N : UInt32) : Prop := T.toNat * 2 ^ (nEff N - 1) < 2 ^ 32

theorem specDelay_double (T N k : Nat) (hk : 1 ≤ k) (h : k + 1 < N) : specDelay T N (k + 1) = specDelay T N k * 2 := by
  obtain ⟨j, rfl⟩ := Nat.exists_eq_add_of_le' hk
  unfold specDelay
  rw [if_pos h, if_pos (by omega), Nat.mul_assoc, ← Nat.pow_succ]; rfl

theorem specDelay_last (T k : Nat) (hk : 1 ≤ k) : specDelay T (k + 1) (k + 1) = specDelay T (k + 1) k / 2 := by
  obtain ⟨j, rfl⟩ := Nat.exists_eq_add_of_le' hk
  unfold specDelay
  rw [if_neg (by omega), if_pos (by omega), if_pos (by omega)]; rfl

theorem specDelay_le (T N k : Nat) : specDelay T N k ≤ T * 2 ^ (N - 1) := by
  have mono : ∀ a b, a ≤ b → T * 2 ^ a ≤ T * 2 ^ b := fun a b h =>
    Nat.mul_le_mul_left _ (Nat.pow_le_pow_right (by decide) h)
  unfold specDelay
  split
  · exact mono _ _ (by omega)
  · split
    · exact Nat.le_trans (Nat.div_le_self _ _) (mono _ _ (by omega))
    · exact Nat.le_mul_of_pos_right _ (Nat.two_pow_pos _)

def rearm (t : Timer) (now : Nat) : Timer :=
  let delay := if t.retrans == t.maxRetrans - 1 then t.delay / 2 else t.delay * 2
  { t with delay := delay, dlSec := (setDelay now delay).1, dlUsec := (setDelay now delay).2, retrans := t.retrans + 1 }

/-- the three ways a poll ends -/
theorem refresh_cases (t : Timer) (now : Nat) :
    (remainder t now ≠ 0 ∧ refresh t now = (t, .success)) ∨
    (remainder t now = 0 ∧ t.maxRetrans.toNat ≤ t.retrans.toNat ∧ refresh t now = (t, .timeout)) ∨
    (remainder t now = 0 ∧ t.retrans.toNat < t.maxRetrans.toNat ∧ refresh t now = (rearm t now, .retransmit)) := by
  unfold refresh
  by_cases hz : remainder t now = 0
  · rw [if_pos (beq_iff_eq.mpr hz)]
    by_cases hge : t.retrans ≥ t.maxRetrans
    · rw [if_pos hge]; exact Or.inr (Or.inl ⟨hz, UInt32.le_iff_toNat_le.mp hge, rfl⟩)
    · rw [if_neg hge]; exact Or.inr (Or.inr ⟨hz, Nat.lt_of_not_le (mt UInt32.le_iff_toNat_le.mpr hge), rfl⟩)
  · rw [if_neg (mt beq_iff_eq.mp hz)]; exact Or.inl ⟨hz, rfl⟩

theorem refresh_expired (t : Timer) (now : Nat) (h : remainder t now = 0) :
    (refresh t now).2 ≠ .success := by
  rcases refresh_cases t now with ⟨hz, _⟩ | ⟨_, _, e⟩ | ⟨_, _, e⟩
  · exact absurd h hz
  all_goals rw [e]; simp

def countRetr (rs : List Ret) : Nat := rs.count .retransmit

theorem countRetr_cons (r : Ret) (rs : List Ret) :
    countRetr (r :: rs) = countRetr rs + (if r = .retransmit then 1 else 0) := by
  unfold countRetr
  rw [List.count_cons]
  cases r <;> rfl

theorem rearm_retrans (t : Timer) (now : Nat) (h : t.retrans.toNat < t.maxRetrans.toNat) :
    (rearm t now).retrans.toNat = t.retrans.toNat + 1 := by
  have := t.maxRetrans.toNat_lt
  show (t.retrans + 1).toNat = _
  rw [UInt32.toNat_add]; exact Nat.mod_eq_of_lt (by show _ + 1 < _; omega)

theorem refresh_retrans_step (t : Timer) (now : Nat) :
    (refresh t now).1.retrans.toNat =
      t.retrans.toNat + (if (refresh t now).2 = .retransmit then 1 else 0) := by
  rcases refresh_cases t now with ⟨_, e⟩ | ⟨_, _, e⟩ | ⟨_, hlt, e⟩ <;> rw [e]
  · rfl
  · rfl
  · exact rearm_retrans t now hlt

theorem start_invC (now : Nat) (T N : UInt32) : InvC N (start now T N) :=
  ⟨rfl, Nat.le_refl 1, by show 1 ≤ max _ 1; omega⟩

theorem refresh_invC (N : UInt32) (t : Timer) (now : Nat) (h : InvC N t) : InvC N (refresh t now).1 := by
  rcases refresh_cases t now with ⟨_, e⟩ | ⟨_, _, e⟩ | ⟨_, hlt, e⟩ <;> rw [e]
  · exact h
  · exact h
  · have hlo := h.lo
    rw [h.max_eq] at hlt
    exact ⟨h.max_eq, by rw [rearm_retrans t now (h.max_eq ▸ hlt)]; omega,
      by rw [rearm_retrans t now (h.max_eq ▸ hlt)]; unfold nEff; omega⟩

theorem start_inv (now : Nat) (T N : UInt32) : Inv T N (start now T N) := by
  refine ⟨start_invC now T N, ?_⟩
  show T.toNat = specDelay T.toNat (nEff N) 1
  unfold specDelay nEff
  split
  · simp
  · split
    · omega
    · rfl

theorem refresh_inv (T N : UInt32) (hno : NoOverflow T N) (t : Timer) (now : Nat) (h : Inv T N t) :
    Inv T N (refresh t now).1 := by
  refine ⟨refresh_invC N t now h.toInvC, ?_⟩
  obtain ⟨⟨hmax, hlo, _⟩, hd⟩ := h
  rcases refresh_cases t now with ⟨_, e⟩ | ⟨_, _, e⟩ | ⟨_, hlt, e⟩ <;> rw [e]
  · exact hd
  · exact hd
  · rw [rearm_retrans t now hlt]
    rw [hmax] at hlt
    have hN : nEff N = N.toNat := by unfold nEff; omega
    have hNsub : (N - 1).toNat = N.toNat - 1 :=
      UInt32.toNat_sub_of_le _ _ (UInt32.le_iff_toNat_le.mpr (by show 1 ≤ _; omega))
    have hbeq : (t.retrans == N - 1) = decide (t.retrans.toNat + 1 = N.toNat) := by
      rw [Bool.eq_iff_iff, beq_iff_eq, decide_eq_true_iff, ← UInt32.toNat_inj, hNsub]; omega
    unfold NoOverflow at hno
    rw [hN] at hd hno ⊢
    show (if t.retrans == t.maxRetrans - 1 then t.delay / 2 else t.delay * 2).toNat = _
    rw [hmax, hbeq]
    by_cases hl : t.retrans.toNat + 1 = N.toNat
    · rw [decide_eq_true hl, if_pos rfl, UInt32.toNat_div, hd, ← hl, specDelay_last _ _ hlo]; rfl
    · have hdb := specDelay_double T.toNat N.toNat _ hlo (by omega)
      rw [decide_eq_false hl, if_neg (by simp), UInt32.toNat_mul, hd, hdb]
      exact Nat.mod_eq_of_lt (Nat.lt_of_le_of_lt (hdb ▸ specDelay_le _ _ _) hno)

theorem run_keeps {P : Timer → Prop} (step : ∀ t p, P t → P (refresh t p).1) (ps : List Nat) :
    ∀ t, P t → P (run t ps).1 := by
  induction ps with
  | nil => intro t h; exact h
  | cons p ps ih => intro t h; exact ih _ (step t p h)

theorem run_count (ps : List Nat) :
    ∀ t, (run t ps).1.retrans.toNat = t.retrans.toNat + countRetr (run t ps).2 := by
  induction ps with
  | nil => intro t; simp [run, countRetr]
  | cons p ps ih =>
    intro t
    simp only [run]
    rw [countRetr_cons, ih, refresh_retrans_step t p]
    omega

/-- However the timer is polled it asks for at most `max N 1 - 1` retransmissions; no hypothesis on `T`: a wrapped
    delay changes the waits, not the counters. -/
theorem retransmit_count_le (now : Nat) (T N : UInt32) (ps : List Nat) :
    countRetr (run (start now T N) ps).2 ≤ nEff N - 1 := by
  have h1 := run_count ps (start now T N)
  have h2 := (run_keeps (refresh_invC N) ps _ (start_invC now T N)).hi
  have : (start now T N).retrans.toNat = 1 := rfl
  omega

/-- `retransmit_count_le` as planned (DESIGN 5, `C19_retransmit_count` a), with a hypothesis it does not need -/
theorem C19_retransmit_count_le (now : Nat) (T N : UInt32) (_hno : NoOverflow T N) (ps : List Nat) :
    countRetr (run (start now T N) ps).2 ≤ nEff N - 1 :=
  retransmit_count_le now T N ps

/-- `timeout` is reported only after exactly `max N 1 - 1` retransmissions, whatever the polling pattern and `T` -/
theorem timeout_after_exact_count (now : Nat) (T N : UInt32) (pre : List Nat) (p : Nat)
    (h : (refresh (run (start now T N) pre).1 p).2 = .timeout) :
    countRetr (run (start now T N) pre).2 = nEff N - 1 := by
  have h1 := run_count pre (start now T N)
  have hinv := run_keeps (refresh_invC N) pre _ (start_invC now T N)
  have h2 := hinv.hi
  have : (start now T N).retrans.toNat = 1 := rfl
  rcases refresh_cases (run (start now T N) pre).1 p with ⟨_, e⟩ | ⟨_, hge, _⟩ | ⟨_, _, e⟩
  · rw [e] at h; cases h
  · rw [hinv.max_eq] at hge; unfold nEff at *; omega
  · rw [e] at h; cases h

/-- `timeout_after_exact_count` as planned (`C19_retransmit_count` b), with a hypothesis it does not need -/
theorem C19_timeout_after_exact_count (now : Nat) (T N : UInt32) (hno : NoOverflow T N)
    (pre : List Nat) (p : Nat)
    (h : (refresh (run (start now T N) pre).1 p).2 = .timeout) :
    countRetr (run (start now T N) pre).2 = nEff N - 1 :=
  timeout_after_exact_count now T N pre p h

/-- (`C19_retransmit_count` c)  Once `timeout` has been reported no retransmission is ever
    requested again, and the timer state no longer changes. -/
theorem C19_no_retransmit_after_timeout (T N : UInt32) (t : Timer) (p : Nat) (ps : List Nat)
    (h : (refresh t p).2 = .timeout) :
    (run t (p :: ps)).1 = t ∧ countRetr (run t (p :: ps)).2 = 0 := by
  have hge : t.maxRetrans.toNat ≤ t.retrans.toNat := by
    rcases refresh_cases t p with ⟨_, e⟩ | ⟨_, hge, _⟩ | ⟨_, _, e⟩
    · rw [e] at h; cases h
    · exact hge
    · rw [e] at h; cases h
  suffices ∀ qs, (run t qs).1 = t ∧ countRetr (run t qs).2 = 0 from this (p :: ps)
  intro qs
  induction qs with
  | nil => exact ⟨rfl, rfl⟩
  | cons q qs ih =>
    simp only [run]
    rcases refresh_cases t q with ⟨_, e⟩ | ⟨_, _, e⟩ | ⟨_, hlt, _⟩
    · rw [e, countRetr_cons, ih.2]; exact ⟨ih.1, rfl⟩
    · rw [e, countRetr_cons, ih.2]; exact ⟨ih.1, rfl⟩
    · omega

theorem C19_remainder_zero_from_deadline (t : Timer) (now : Nat) (h : deadlineUs t ≤ now) :
    remainder t now = 0 := by
  unfold deadlineUs at h
  unfold remainder
  simp only
  split
  · rfl
  · rename_i hns
    have hsec : t.dlSec - now / 1000000 = 0 := by omega
    have husec : now % 1000000 ≥ t.dlUsec := by omega
    simp [hsec, husec]

/-- **C19_timeout_reached.**  Any poll at or after the deadline of a timer that has used up its
    transmissions reports `timeout`; before that budget is used up it reports `retransmit`. -/
theorem C19_timeout_reached (t : Timer) (now : Nat) (h : deadlineUs t ≤ now) :
    (refresh t now).2 = (if t.retrans ≥ t.maxRetrans then .timeout else .retransmit) := by
  rcases refresh_cases t now with ⟨hz, _⟩ | ⟨_, hge, e⟩ | ⟨_, hlt, e⟩
  · exact absurd (C19_remainder_zero_from_deadline t now h) hz
  · rw [e, if_pos (UInt32.le_iff_toNat_le.mpr hge)]
  · rw [e, if_neg (mt UInt32.le_iff_toNat_le.mp (Nat.not_le_of_lt hlt))]

/-- the deadline was set at instant `p` from the delay in force (`start`, every retransmission).  Two equations: as one
    between pairs the `rfl`s below are dear. -/
def Armed (p : Nat) (t : Timer) : Prop := t.dlSec = (setDelay p t.delay).1 ∧ t.dlUsec = (setDelay p t.delay).2

theorem Armed.deadline {p : Nat} {t : Timer} (h : Armed p t) : deadlineUs t = p + t.delay.toNat * 1000 := by
  unfold deadlineUs; rw [h.1, h.2]; exact setDelay_value p t.delay

theorem Armed.usec_le {p : Nat} {t : Timer} (h : Armed p t) : t.dlUsec ≤ 1000000 := by
  rw [h.2]; exact setDelay_usec_le p _

/-- a poll keeps `tv_usec ≤ 10^6`, which `start` establishes and `remainder_le` assumes -/
theorem refresh_usec_le (t : Timer) (now : Nat) (h : t.dlUsec ≤ 1000000) :
    (refresh t now).1.dlUsec ≤ 1000000 := by
  rcases refresh_cases t now with ⟨_, e⟩ | ⟨_, _, e⟩ | ⟨_, _, e⟩ <;> rw [e]
  · exact h
  · exact h
  · exact setDelay_usec_le now _

/-- the whole seconds cancel.  By rewriting: omega runs out of recursion depth on 10^6 next to 1000. -/
theorem cancel_secs (dl U now D : Nat) (hq : now / 1000000 ≤ dl) (hd : dl * 1000000 + U ≤ now + D * 1000) :
    (dl - now / 1000000) * 1000 * 1000 + U ≤ now % 1000000 + D * 1000 := by
  obtain ⟨S, rfl⟩ := Nat.exists_eq_add_of_le hq
  have e := Nat.div_add_mod now 1000000
  generalize now / 1000000 = q at *
  generalize now % 1000000 = u at *
  subst e
  rw [Nat.add_mul q S, Nat.mul_comm _ q, Nat.add_assoc, Nat.add_assoc] at hd
  rw [Nat.add_sub_cancel_left, Nat.mul_assoc]
  exact Nat.le_of_add_le_add_left hd

/-- **C19_remainder_le_delay (general form).**  If the deadline is at most `D` ms away the reported remainder is at
    most `D` ms; `dsec * 1000` may wrap on the way, the result is exact as soon as it fits. -/
theorem remainder_le (t : Timer) (now D : Nat) (hu : t.dlUsec ≤ 1000000)
    (hd : deadlineUs t ≤ now + D * 1000) (hD : D < 2 ^ 32) :
    (remainder t now).toNat ≤ D := by
  have hD' : D < 4294967296 := hD
  have hlt : now % 1000000 < 1000000 := Nat.mod_lt _ (by decide)
  unfold remainder
  simp only
  split
  · simp
  rename_i hns
  have key := cancel_secs _ _ _ _ (Nat.le_of_not_gt hns) hd
  generalize t.dlSec - now / 1000000 = S at *
  generalize now % 1000000 = u at *
  generalize t.dlUsec = U at *
  -- omega sees the seconds only through `M` = `dsec * 1000` (coefficient 1000)
  obtain ⟨M, hM⟩ : ∃ M, M = S * 1000 := ⟨_, rfl⟩
  rw [← hM] at key
  clear hd hns hD
  split
  · simp
  rename_i hnz
  unfold addUsecDiffMs
  rw [show (1000 : UInt32) = UInt32.ofNat 1000 from rfl, ← UInt32.ofNat_mul, ← hM]
  split
  · rw [← UInt32.ofNat_add, UInt32.toNat_ofNat', Nat.mod_eq_of_lt (by omega)]
    omega
  · -- here dlSec > nowSec, otherwise the early `return 0` was taken
    have hpos : S ≠ 0 := by rintro rfl; simp at hnz; omega
    rw [← UInt32.ofNat_sub (by omega), UInt32.toNat_ofNat', Nat.mod_eq_of_lt (by omega)]
    omega

/-- **C19_remainder_le_delay**, with no hypothesis on the delay -/
theorem Armed.remainder_le {p : Nat} {t : Timer} (h : Armed p t) (later : Nat) (hl : p ≤ later) :
    (remainder t later).toNat ≤ t.delay.toNat :=
  Nice.Props.C19.remainder_le t later _ h.usec_le (by rw [h.deadline]; omega) t.delay.toNat_lt

theorem C19_remainder_le_delay_start (now later : Nat) (T N : UInt32) (hl : now ≤ later)
    (hT : T.toNat + 1000 < 2 ^ 32) :
    (remainder (start now T N) later).toNat ≤ (start now T N).delay.toNat :=
  Armed.remainder_le (p := now) (t := start now T N) ⟨rfl, rfl⟩ later hl

theorem C19_remainder_le_delay_refresh (t : Timer) (now later : Nat) (hl : now ≤ later)
    (h : (refresh t now).2 = .retransmit)
    (hT : (refresh t now).1.delay.toNat + 1000 < 2 ^ 32) :
    (remainder (refresh t now).1 later).toNat ≤ (refresh t now).1.delay.toNat := by
  refine Armed.remainder_le (p := now) ?_ later hl
  rcases refresh_cases t now with ⟨_, e⟩ | ⟨_, _, e⟩ | ⟨_, _, e⟩ <;> rw [e] at h ⊢
  · cases h
  · cases h
  · exact ⟨rfl, rfl⟩

/-- **C19_wait_schedule.**  In every reachable state the wait in force after the k-th
    transmission is `T·2^(k-1)` for `k < N'`, and half the previous one after the last
    (`T, 2T, T` for N = 3). -/
theorem C19_wait_schedule (now : Nat) (T N : UInt32) (hno : NoOverflow T N) (ps : List Nat) :
    let t := (run (start now T N) ps).1
    t.delay.toNat = specDelay T.toNat (nEff N) t.retrans.toNat ∧
    1 ≤ t.retrans.toNat ∧ t.retrans.toNat ≤ nEff N := by
  have h := run_keeps (refresh_inv T N hno) ps _ (start_inv now T N)
  exact ⟨h.delay_eq, h.lo, h.hi⟩

/-- polling at or after every deadline ("arbitrarily late") -/
def LatePolls : Timer → List Nat → Prop
  | _, [] => True
  | t, p :: ps => deadlineUs t ≤ p ∧ LatePolls (refresh t p).1 ps

/-- `m` retransmits left, `n` polls -/
def lateSeq (m n : Nat) : List Ret := List.replicate (min m n) .retransmit ++ List.replicate (n - m) .timeout

theorem lateSeq_zero (n : Nat) : lateSeq 0 (n + 1) = .timeout :: lateSeq 0 n := by
  simp [lateSeq, List.replicate_succ]

theorem lateSeq_succ (m n : Nat) : lateSeq (m + 1) (n + 1) = .retransmit :: lateSeq m n := by
  simp [lateSeq, List.replicate_succ, Nat.succ_min_succ]

/-- `C19_exact_sequence` from any state -/
theorem late_sequence (N : UInt32) (ps : List Nat) :
    ∀ t, InvC N t → LatePolls t ps → (run t ps).2 = lateSeq (nEff N - t.retrans.toNat) ps.length := by
  induction ps with
  | nil => intro t _ _; simp [run, lateSeq]
  | cons p ps ih =>
    intro t hinv ⟨hd, hl'⟩
    have hhi := hinv.hi
    have hlo := hinv.lo
    simp only [run, List.length_cons]
    rw [ih _ (refresh_invC N t p hinv) hl']
    rcases refresh_cases t p with ⟨hz, _⟩ | ⟨_, hge, e⟩ | ⟨_, hlt, e⟩
    · exact absurd (C19_remainder_zero_from_deadline t p hd) hz
    · rw [hinv.max_eq] at hge
      rw [e, (by unfold nEff at *; omega : nEff N - t.retrans.toNat = 0), lateSeq_zero]
    · rw [e, rearm_retrans t p hlt]
      rw [hinv.max_eq] at hlt
      rw [(by unfold nEff; omega : nEff N - t.retrans.toNat = (nEff N - (t.retrans.toNat + 1)) + 1), lateSeq_succ]

/-- **C19_exact_sequence** from `start`: N'−1 retransmissions, then timeout for ever. -/
theorem C19_exact_sequence (now : Nat) (T N : UInt32) (hno : NoOverflow T N) (ps : List Nat)
    (hl : LatePolls (start now T N) ps) :
    (run (start now T N) ps).2 = List.replicate (min (nEff N - 1) ps.length) .retransmit ++
        List.replicate (ps.length - (nEff N - 1)) .timeout :=
  late_sequence N ps _ (start_invC now T N) hl

/-- the property's parameter range satisfies the no-overflow hypothesis: T ≤ 10000, N ≤ 16 -/
theorem C19_range_no_overflow (T N : UInt32) (hT : T.toNat ≤ 10000) (hN : N.toNat ≤ 16) :
    NoOverflow T N := by
  unfold NoOverflow nEff
  have : 2 ^ (max N.toNat 1 - 1) ≤ 2 ^ 15 := Nat.pow_le_pow_right (by decide) (by omega)
  calc T.toNat * 2 ^ (max N.toNat 1 - 1) ≤ 10000 * 2 ^ 15 := Nat.mul_le_mul hT this
    _ < 2 ^ 32 := by decide

-- the documented example: T = 500 ms, N = 3 → waits 500, 1000, 500
example : (run (start 0 500 3) [500000, 1500000, 2000000, 2000001]).2
    = [.retransmit, .retransmit, .timeout, .timeout] := by decide
example : LatePolls (start 0 500 3) [500000, 1500000, 2000000] := by
  refine ⟨by decide, by decide, by decide, trivial⟩
example : ((run (start 0 500 3) [500000]).1.delay, (run (start 0 500 3) [500000, 1500000]).1.delay)
    = (1000, 500) := by decide
example : (run (start 7 500 0) [500007, 600000]).2 = [.timeout, .timeout] := by decide
example : NoOverflow 500 3 := by unfold NoOverflow; decide

end Nice.Props.C19
