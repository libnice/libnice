/-
  C03 — only authenticated peers influence the agent or reach the application (decision kernels).
  What "authenticated" means for status SUCCESS / FORBIDDEN is C04 (STUN validation); the end-to-end
  non-interference claim is tied by paired simulations (with / without an off-path attacker).
-/
import Nice.Model.Gate
-- the other imports are for checks/C03.py, which builds this module
import Nice.Props.C03Flow
import Nice.Props.C03Recv
import Nice.Model.FlowRun
import Nice.Props.C04
namespace Nice.Props.C03
open Nice.Gate Nice.Gen

/-- **C03_forged_is_stutter.**  Every status but SUCCESS and FORBIDDEN is a stutter step for the agent: nothing but an
    error response to the source (400/401/420), a silent drop, or "not control traffic". -/
theorem C03_forged_is_stutter (status : Nat)
    (h1 : status ≠ STUN_VALIDATION_SUCCESS) (h2 : status ≠ STUN_VALIDATION_FORBIDDEN) :
    gate status = .notHandled ∨ gate status = .dropped ∨ ∃ c, gate status = .replyOnly c ∧ (c = 400 ∨ c = 401 ∨ c = 420) := by
  unfold gate
  repeat' split
  all_goals first
    | (left; rfl)
    | (right; left; rfl)
    | (right; right; exact ⟨_, rfl, by decide⟩)
    | contradiction

/-- **C03_state_change_needs_auth.**  The only validation statuses after which
    conn_check_handle_inbound_stun may touch agent state are SUCCESS and FORBIDDEN — the two statuses
    stun_agent_validate returns only after the MESSAGE-INTEGRITY comparison succeeded (C04). -/
theorem C03_state_change_needs_auth (status : Nat)
    (h : gate status = .proceed ∨ gate status = .consentRevoked) :
    status = STUN_VALIDATION_SUCCESS ∨ status = STUN_VALIDATION_FORBIDDEN := by
  by_cases h1 : status = STUN_VALIDATION_SUCCESS
  · exact .inl h1
  by_cases h2 : status = STUN_VALIDATION_FORBIDDEN
  · exact .inr h2
  -- any other status leads to one of the stutter effects, which are neither of the two in `h`
  rcases C03_forged_is_stutter status h1 h2 with e | e | ⟨c, e, _⟩ <;> rw [e] at h <;> exact h.elim nofun nofun

/-- **C03_data_gate.**  A datagram reaches the application only if its source address has completed
    an authenticated check (is in the component's valid set). -/
theorem C03_data_gate (len : Nat) (fast full : Int) (status : Nat) (srcValid : Bool)
    (h : demux len fast full status srcValid = .deliver) : srcValid = true := by
  unfold demux at h
  split at h
  · cases h
  · split at h
    · assumption
    · cases h

/-- A datagram is consumed as control traffic only if both length checks accept it at its full length AND the
    STUN handler claims it; everything else from a validated source is delivered (`C03_lookalike_delivered`,
    re-exported as `C02.C02_demux`) — in particular payloads that merely imitate a STUN header. -/
theorem C03_control_only_if_stun (len : Nat) (fast full : Int) (status : Nat) (srcValid : Bool)
    (h : demux len fast full status srcValid = .control) :
    fast = len ∧ full = len ∧ handled (gate status) = true := by
  unfold demux at h
  split at h
  · assumption
  · split at h <;> cases h

theorem C03_lookalike_delivered (len : Nat) (fast full : Int) (status : Nat)
    (h : ¬ (fast = len ∧ full = len ∧ handled (gate status) = true)) :
    demux len fast full status true = .deliver := by
  unfold demux; simp [h]

example : gate STUN_VALIDATION_UNAUTHORIZED = .replyOnly 401 := by decide
example : gate STUN_VALIDATION_SUCCESS = .proceed := by decide
example : demux 28 28 28 STUN_VALIDATION_NOT_STUN true = .deliver := by decide
example : demux 28 28 28 STUN_VALIDATION_UNAUTHORIZED false = .control := by decide
example : demux 12 (-1) 0 0 false = .drop := by decide

end Nice.Props.C03
