/-
  C01 — ICE converges: one controller.  Theorems about the role-conflict kernels
  (`Nice.IceRole`, mirroring stun/usages/ice.c create_reply and conncheck.c's 487 handling) in the
  abstract two-agent system over a monotone message history (arbitrary loss, duplication, delay,
  reordering of requests and 487 answers).  Two invariants carry everything: `InvD` (the roles differ from the
  start: nothing ever changes) and `InvE` (same role `i`: the agent the tie-break designates switches at most once,
  the other never).
  Not proved (see DESIGN.md, C01): convergence of the full check-list engine to READY; that part of
  the property is tied by simulation of the real agents only.
-/
import Nice.Model.IceRole
import Nice.Props.C15
import Nice.Props.C01Select  -- for checks/C01.py, which builds this module
namespace Nice.Props.C01
open Nice.IceRole

@[simp] theorem other_other (x : Ag) : x.other.other = x := by cases x <;> rfl
theorem other_ne (x : Ag) : x.other ≠ x := by cases x <;> simp [Ag.other]
theorem eq_other_of_ne {x w : Ag} (h : x ≠ w) : x = w.other := by
  cases x <;> cases w <;> simp_all [Ag.other]
theorem role_setRole (s : Sys) (x z : Ag) (r : Bool) :
    (s.setRole x r).role z = if z = x then r else s.role z := by
  cases x <;> cases z <;> simp [Sys.setRole, Sys.role]
@[simp] theorem tie_setRole (s : Sys) (x y : Ag) (r : Bool) : (s.setRole x r).tie y = s.tie y := by
  cases x <;> cases y <;> rfl
@[simp] theorem reqs_setRole (s : Sys) (x : Ag) (r : Bool) : (s.setRole x r).reqs = s.reqs := by cases x <;> rfl
@[simp] theorem errs_setRole (s : Sys) (x : Ag) (r : Bool) : (s.setRole x r).errs = s.errs := by cases x <;> rfl
@[simp] theorem role_addErr (s : Sys) (m : Msg) (z : Ag) : (s.addErr m).role z = s.role z := by cases z <;> rfl
@[simp] theorem tie_addErr (s : Sys) (m : Msg) (z : Ag) : (s.addErr m).tie z = s.tie z := by cases z <;> rfl
@[simp] theorem reqs_addErr (s : Sys) (m : Msg) : (s.addErr m).reqs = s.reqs := rfl
@[simp] theorem errs_addErr (s : Sys) (m : Msg) : (s.addErr m).errs = m :: s.errs := rfl

/-- the decision taken when request `m` is delivered in state `s` -/
def decision (s : Sys) (m : Msg) : Bool × Reply :=
  onRequest (s.role m.sender.other) (s.tie m.sender.other) (some m.controlling) (s.tie m.sender)

theorem deliverReq_role (s : Sys) (m : Msg) (hm : m ∈ s.reqs) (z : Ag) :
    (step s (.deliverReq m)).role z = if z = m.sender.other then (decision s m).1 else s.role z := by
  simp only [step, hm, if_true, decision]
  split <;> simp [role_setRole]
theorem deliverReq_tie (s : Sys) (m : Msg) (z : Ag) : (step s (.deliverReq m)).tie z = s.tie z := by
  simp only [step]; split
  · split <;> simp
  · rfl
theorem deliverReq_reqs (s : Sys) (m : Msg) : (step s (.deliverReq m)).reqs = s.reqs := by
  simp only [step]; split
  · split <;> simp
  · rfl
theorem deliverReq_errs (s : Sys) (m : Msg) (hm : m ∈ s.reqs) :
    (step s (.deliverReq m)).errs =
      if (decision s m).2 = .err487 then ⟨m.sender, m.controlling⟩ :: s.errs else s.errs := by
  simp only [step, hm, if_true, decision]
  split
  · rename_i h; simp [h]
  · rename_i h; simp [h]
theorem deliverReq_not_mem (s : Sys) (m : Msg) (hm : m ∉ s.reqs) : step s (.deliverReq m) = s := by
  simp [step, hm]

theorem deliver487_role (s : Sys) (e : Msg) (he : e ∈ s.errs) (z : Ag) :
    (step s (.deliver487 e)).role z = if z = e.sender then on487 e.controlling else s.role z := by
  simp [step, he, role_setRole]
theorem deliver487_tie (s : Sys) (e : Msg) (z : Ag) : (step s (.deliver487 e)).tie z = s.tie z := by
  simp only [step]; split <;> simp
theorem deliver487_reqs (s : Sys) (e : Msg) : (step s (.deliver487 e)).reqs = s.reqs := by
  simp only [step]; split <;> simp
theorem deliver487_errs (s : Sys) (e : Msg) : (step s (.deliver487 e)).errs = s.errs := by
  simp only [step]; split <;> simp
theorem deliver487_not_mem (s : Sys) (e : Msg) (he : e ∉ s.errs) : step s (.deliver487 e) = s := by
  simp [step, he]

theorem tie_step (s : Sys) (st : Step) (x : Ag) : (step s st).tie x = s.tie x := by
  cases st with
  | send y => cases x <;> rfl
  | deliverReq m => exact deliverReq_tie s m x
  | deliver487 m => exact deliver487_tie s m x

theorem onRequest_no_conflict (c rc : Bool) (t q : UInt64) (h : rc ≠ c) : onRequest c t (some rc) q = (c, .success) := by
  cases c <;> cases rc <;> simp_all [onRequest]

def initRole (iA iB : Bool) : Ag → Bool | .a => iA | .b => iB

structure InvD (iA iB : Bool) (s : Sys) : Prop where
  roles : ∀ z, s.role z = initRole iA iB z
  reqs : ∀ m ∈ s.reqs, m.controlling = initRole iA iB m.sender
  errs : s.errs = []

theorem initRole_other_ne (iA iB : Bool) (hne : iA ≠ iB) (x : Ag) : initRole iA iB x ≠ initRole iA iB x.other := by
  cases x <;> simp [initRole, Ag.other] <;> first | exact hne | exact fun e => hne e.symm

theorem invD_step (iA iB : Bool) (hne : iA ≠ iB) (s : Sys) (st : Step) (h : InvD iA iB s) :
    InvD iA iB (step s st) := by
  cases st with
  | send x =>
    refine ⟨fun z => by cases z <;> first | exact h.roles .a | exact h.roles .b, ?_, h.errs⟩
    intro m hm
    simp only [step, List.mem_cons] at hm
    rcases hm with rfl | hm
    · exact h.roles x
    · exact h.reqs m hm
  | deliverReq m =>
    by_cases hm : m ∈ s.reqs
    · have hd : decision s m = (s.role m.sender.other, .success) := by
        unfold decision
        apply onRequest_no_conflict
        rw [h.reqs m hm, h.roles]
        exact initRole_other_ne iA iB hne m.sender
      refine ⟨?_, ?_, ?_⟩
      · intro z; rw [deliverReq_role s m hm, hd]; split
        · rename_i hz; rw [hz]; exact h.roles _
        · exact h.roles z
      · rw [deliverReq_reqs]; exact h.reqs
      · rw [deliverReq_errs s m hm, hd]; simp [h.errs]
    · rw [deliverReq_not_mem s m hm]; exact h
  | deliver487 m =>
    have : m ∉ s.errs := by simp [h.errs]
    rw [deliver487_not_mem s m this]; exact h

/-- **C01_role_stable_when_roles_differ.**  If the agents start with different roles, no schedule
    of sends, deliveries, duplicates or reorderings ever changes a role or produces a 487. -/
theorem C01_role_stable_when_roles_differ (s : Sys) (hne : s.roleA ≠ s.roleB)
    (h0 : s.reqs = []) (h1 : s.errs = []) (steps : List Step) :
    (run s steps).roleA = s.roleA ∧ (run s steps).roleB = s.roleB ∧ (run s steps).errs = [] := by
  have inv0 : InvD s.roleA s.roleB s := ⟨fun z => by cases z <;> rfl, by simp [h0], h1⟩
  have r : InvD s.roleA s.roleB (run s steps) :=
    List.foldlRecOn steps step inv0 fun t ht st _ => invD_step _ _ hne t st ht
  exact ⟨r.roles .a, r.roles .b, r.errs⟩

/-- the agent that has to switch: the smaller tie-breaker when both are controlling, the larger
    when both are controlled -/
def IsSwitcher (s : Sys) (i : Bool) (w : Ag) : Prop :=
  if i then s.tie w < s.tie w.other else s.tie w > s.tie w.other

structure InvE (i : Bool) (w : Ag) (s : Sys) : Prop where
  sw : IsSwitcher s i w
  keep : s.role w.other = i                                  -- the other agent never changes
  reqsN : ∀ m ∈ s.reqs, m.sender = w.other → m.controlling = i
  errs : ∀ e ∈ s.errs, e.sender = w ∧ e.controlling = i      -- 487s only go to the switcher

theorem isSwitcher_step (s : Sys) (i : Bool) (w : Ag) (st : Step) (h : IsSwitcher s i w) :
    IsSwitcher (step s st) i w := by
  unfold IsSwitcher at *
  simp only [tie_step]; exact h

theorem onRequest_switcher (s : Sys) (i : Bool) (w : Ag) (h : IsSwitcher s i w) :
    onRequest i (s.tie w) (some i) (s.tie w.other) = (!i, .switched) := by
  unfold IsSwitcher at h
  cases i
  · simp only [Bool.false_eq_true, if_false] at h
    have : s.tie w ≥ s.tie w.other := UInt64.le_of_lt h
    simp [onRequest, Nice.Gen.RoleConflict.switches, this]
  · simp only [if_true] at h
    simp [onRequest, Nice.Gen.RoleConflict.switches, h]

theorem onRequest_keeper (s : Sys) (i : Bool) (w : Ag) (h : IsSwitcher s i w) :
    onRequest i (s.tie w.other) (some i) (s.tie w) = (i, .err487) := by
  unfold IsSwitcher at h
  cases i
  · simp only [Bool.false_eq_true, if_false] at h
    have : ¬ (s.tie w.other ≥ s.tie w) := by
      intro hge
      rw [ge_iff_le, UInt64.le_iff_toNat_le] at hge
      rw [gt_iff_lt, UInt64.lt_iff_toNat_lt] at h; omega
    simp [onRequest, Nice.Gen.RoleConflict.switches, this]
  · simp only [if_true] at h
    have : ¬ (s.tie w.other < s.tie w) := by
      intro hlt
      rw [UInt64.lt_iff_toNat_lt] at hlt h; omega
    simp [onRequest, Nice.Gen.RoleConflict.switches, this]

theorem decision_at_switcher (i : Bool) (w : Ag) (s : Sys) (h : InvE i w s) (m : Msg)
    (hm : m ∈ s.reqs) (hs : m.sender = w.other) :
    decision s m = (!i, if s.role w = i then .switched else .success) := by
  have hc := h.reqsN m hm hs
  unfold decision
  rw [hs, other_other, hc]
  by_cases hr : s.role w = i
  · rw [hr, onRequest_switcher s i w h.sw]; simp
  · have hr' : s.role w = !i := by cases hrw : s.role w <;> cases i <;> simp_all
    rw [hr', onRequest_no_conflict (!i) i _ _ (by cases i <;> simp)]; simp

theorem decision_at_keeper (i : Bool) (w : Ag) (s : Sys) (h : InvE i w s) (m : Msg) (hs : m.sender = w) :
    decision s m = (i, if m.controlling = i then .err487 else .success) := by
  unfold decision
  rw [hs, h.keep]
  by_cases hc : m.controlling = i
  · rw [hc, onRequest_keeper s i w h.sw]; simp
  · rw [onRequest_no_conflict i m.controlling _ _ hc]; simp [hc]

theorem invE_step (i : Bool) (w : Ag) (s : Sys) (st : Step) (h : InvE i w s) : InvE i w (step s st) := by
  have hsw := isSwitcher_step s i w st h.sw
  cases st with
  | send x =>
    refine ⟨hsw, h.keep, ?_, h.errs⟩
    intro m hm hs
    simp only [step, List.mem_cons] at hm
    rcases hm with rfl | hm
    · simp only at hs; subst hs; exact h.keep
    · exact h.reqsN m hm hs
  | deliverReq m =>
    by_cases hm : m ∈ s.reqs
    · by_cases hs : m.sender = w
      · have hd := decision_at_keeper i w s h m hs
        refine ⟨hsw, ?_, ?_, ?_⟩
        · rw [deliverReq_role s m hm, hd, hs]; simp
        · rw [deliverReq_reqs]; exact h.reqsN
        · rw [deliverReq_errs s m hm, hd]
          by_cases hc : m.controlling = i
          · simp only [hc, if_true]
            intro e he
            simp only [List.mem_cons] at he
            rcases he with he | he
            · rw [he]; exact ⟨hs, rfl⟩
            · exact h.errs e he
          · simp only [hc, if_false, reduceCtorEq]
            exact h.errs
      · have hs' := eq_other_of_ne hs
        have hd := decision_at_switcher i w s h m hm hs'
        refine ⟨hsw, ?_, ?_, ?_⟩
        · rw [deliverReq_role s m hm, hs', other_other]
          simp [other_ne w, h.keep]
        · rw [deliverReq_reqs]; exact h.reqsN
        · rw [deliverReq_errs s m hm, hd]
          have : (if s.role w = i then Reply.switched else Reply.success) ≠ Reply.err487 := by
            split <;> simp
          simp [this]; exact h.errs
    · rw [deliverReq_not_mem s m hm]; exact h
  | deliver487 e =>
    by_cases he : e ∈ s.errs
    · obtain ⟨hs, _⟩ := h.errs e he
      refine ⟨hsw, ?_, ?_, ?_⟩
      · rw [deliver487_role s e he, hs]; simp [other_ne w, h.keep]
      · rw [deliver487_reqs]; exact h.reqsN
      · rw [deliver487_errs]; exact h.errs
    · rw [deliver487_not_mem s e he]; exact h

theorem invE_init (i : Bool) (w : Ag) (s : Sys) (hA : s.roleA = i) (hB : s.roleB = i) (hsw : IsSwitcher s i w)
    (h0 : s.reqs = []) (h1 : s.errs = []) : InvE i w s := by
  refine ⟨hsw, ?_, by simp [h0], by simp [h1]⟩
  cases w <;> simp [Ag.other, Sys.role, hA, hB]

theorem invE_run (i : Bool) (w : Ag) (steps : List Step) (s : Sys) (h : InvE i w s) : InvE i w (run s steps) :=
  List.foldlRecOn steps step h fun s h st _ => invE_step i w s st h

/-- **C01_role_resolved_by_request.**  As soon as the designated agent processes ANY request of its
    peer (however old), it has the opposite role. -/
theorem C01_role_resolved_by_request (i : Bool) (w : Ag) (s : Sys) (h : InvE i w s)
    (m : Msg) (hm : m ∈ s.reqs) (hs : m.sender = w.other) :
    (step s (.deliverReq m)).role w = !i := by
  rw [deliverReq_role s m hm, decision_at_switcher i w s h m hm hs, hs, other_other]; simp

/-- **C01_role_resolved_by_487.**  Likewise when any 487 (however old) reaches it. -/
theorem C01_role_resolved_by_487 (i : Bool) (w : Ag) (s : Sys) (h : InvE i w s)
    (e : Msg) (he : e ∈ s.errs) : (step s (.deliver487 e)).role w = !i := by
  obtain ⟨hs, hc⟩ := h.errs e he
  rw [deliver487_role s e he, hs, hc]; simp [on487]

/-- once the switcher has left role `i` it never comes back -/
theorem switched_stays (i : Bool) (w : Ag) (s : Sys) (st : Step) (h : InvE i w s) (hr : s.role w = !i) :
    (step s st).role w = !i := by
  cases st with
  | send x => cases w <;> exact hr
  | deliverReq m =>
    by_cases hm : m ∈ s.reqs
    · by_cases hs : m.sender = w
      · rw [deliverReq_role s m hm, if_neg (by rw [hs]; exact (other_ne w).symm)]; exact hr
      · exact C01_role_resolved_by_request i w s h m hm (eq_other_of_ne hs)
    · rw [deliverReq_not_mem s m hm]; exact hr
  | deliver487 e =>
    by_cases he : e ∈ s.errs
    · exact C01_role_resolved_by_487 i w s h e he
    · rw [deliver487_not_mem s e he]; exact hr

/-- **C01_role_resolution.**  Both agents start in role `i` with distinct tie-breakers; `w` is the
    agent the tie-break designates.  In every reachable state, under every schedule (loss,
    duplication, delay, reordering, stale messages):
      (1) the other agent still has role `i` — it never changes;
      (2) every 487 ever produced is addressed to `w`;
      (3) if `w` has switched at some point of the run it is still switched at the end. -/
theorem C01_role_resolution (i : Bool) (w : Ag) (s : Sys)
    (hA : s.roleA = i) (hB : s.roleB = i) (hsw : IsSwitcher s i w)
    (h0 : s.reqs = []) (h1 : s.errs = []) (pre post : List Step) :
    (run s (pre ++ post)).role w.other = i ∧
    (∀ e ∈ (run s (pre ++ post)).errs, e.sender = w) ∧
    ((run s pre).role w = !i → (run s (pre ++ post)).role w = !i) := by
  have inv0 := invE_init i w s hA hB hsw h0 h1
  have hall := invE_run i w (pre ++ post) s inv0
  refine ⟨hall.keep, fun e he => (hall.errs e he).1, ?_⟩
  intro hpre
  have hinvpre := invE_run i w pre s inv0
  -- invariant and "switched", kept together
  have := List.foldlRecOn (motive := fun t => InvE i w t ∧ t.role w = !i) post step ⟨hinvpre, hpre⟩
    fun t h st _ => ⟨invE_step i w t st h.1, switched_stays i w t st h.1 h.2⟩
  simpa [run, List.foldl_append] using this.2

theorem C01_one_controller_after_resolution (i : Bool) (w : Ag) (s : Sys) (h : InvE i w s)
    (hr : s.role w = !i) : s.role w ≠ s.role w.other := by
  rw [hr, h.keep]; cases i <;> simp

/-- **C01_mirror (priority part).**  Both agents compute the same priority for the same pair
    (controller's (local,remote) = controlled's (remote,local)), so "highest-priority nominated
    pair" designates mirror-image pairs on the two sides (from C15). -/
theorem C01_mirror_priority (a b : UInt32) :
    Nice.Prio.agentPairPriority true a b = Nice.Prio.agentPairPriority false b a :=
  Nice.Props.C15.C15_pair_symmetric a b

def s0 : Sys := { roleA := true, roleB := true, tieA := 5, tieB := 9, reqs := [], errs := [] }
example : IsSwitcher s0 true .a := by unfold IsSwitcher; decide
example : (run s0 [.send .a, .deliverReq ⟨.a, true⟩, .deliver487 ⟨.a, true⟩]).roleA = false := by decide
example : (run s0 [.send .b, .deliverReq ⟨.b, true⟩]).roleA = false ∧
          (run s0 [.send .b, .deliverReq ⟨.b, true⟩]).roleB = true := by decide

end Nice.Props.C01
