/-
  C08 — Pseudo-TCP delivers exactly the bytes written, in order, then end-of-stream.
  Theorems about `Nice.PTcp` (model of agent/pseudotcp.c), ring level: the two rings refine byte queues, the sender's payload
  is the ring content at the segment's offset, an out-of-order store never touches committed data.  The end-to-end statements
  with the ghost stream of DESIGN 5a piece 7 are in `Props/C08Stream`; the two-socket statements (N) `C08_stream_prefix` and
  (E) `C08_eos_after_all_data` of DESIGN section 5/C08 are decided by the oracle stream of checks/C08.py on the real code.
-/
import Nice.Proofs.PTcpRing
namespace Nice.Props.C08
open Nice.PTcp Nice.Gen Nice.Proofs.PTcp

/-- `pseudo_tcp_fifo_write` accepts `min (n, free space)` bytes, appends exactly these behind the buffered data and
    changes no byte that was already buffered. -/
theorem C08_fifo_write_appends (b b' : Fifo) (src : Array UInt8) (n c : Nat) (hb : FifoOk b) (hc : b.buf.size < 2 ^ 64)
    (h : b.write src n = .ok (c, b')) :
    c = min n (b.buf.size - b.data) ∧ b'.data = b.data + c ∧
    (∀ i, i < b.data → byteAt b' i = byteAt b i) ∧ (∀ j, j < c → byteAt b' (b.data + j) = src.getD j 0) :=
  fifo_write_appends ⟨hb, hc⟩ h

example : ∃ c b', (Fifo.init 4).write #[1, 2, 3, 4, 5, 6] 6 = .ok (c, b') := ⟨_, _, rfl⟩

/-- `pseudo_tcp_fifo_read` returns the oldest `min (n, data)` buffered bytes in order and leaves the rest of the queue
    unchanged. -/
theorem C08_fifo_read_takes (b b' : Fifo) (n : Nat) (out : Array UInt8) (hb : FifoOk b) (hc : b.buf.size < 2 ^ 64)
    (h : b.read n = .ok (out, b')) :
    out.size = min n b.data ∧ (∀ j, j < out.size → out[j]?.getD 0 = byteAt b j) ∧
    b'.data = b.data - out.size ∧ (∀ i, byteAt b' i = byteAt b (out.size + i)) :=
  fifo_read_takes ⟨hb, hc⟩ h

example : ∃ o b', ({ Fifo.init 4 with data := 2 } : Fifo).read 3 = .ok (o, b') := ⟨_, _, rfl⟩

/-- Bytes written come back unchanged and in order: after a write of `c` accepted bytes behind `d` buffered ones, a
    `read_offset` at offset `d` returns exactly these. -/
theorem C08_fifo_roundtrip (b b' : Fifo) (src : Array UInt8) (n c cap : Nat) (out : Array UInt8) (hb : FifoOk b)
    (hc : b.buf.size < 2 ^ 64) (hw : b.write src n = .ok (c, b')) (hr : b'.readOffset c b.data cap = .ok out) :
    out.size = c ∧ ∀ j, j < c → out[j]?.getD 0 = src.getD j 0 := by
  have ⟨hcm, hdt, _, hnew⟩ := fifo_write_appends ⟨hb, hc⟩ hw
  have ⟨hs, hg⟩ := readOffset_content (write_ok ⟨hb, hc⟩ hw).1 hr
  have hsz' : out.size = c := by rw [hs, hdt]; omega
  refine ⟨hsz', ?_⟩
  intro j hj
  rw [hg j (by omega), hnew j hj]

/-- (S) Every data packet written by `packet` carries, after its 24-byte header, exactly the `len` send-ring bytes at
    logical offset `offset` — whatever was sent or acknowledged before; a retransmission of the same (offset, len) carries
    the same payload. -/
theorem C08_sender_payload_from_ring (s s' : Sock) (seq : UInt32) (fl : UInt8) (off len now : UInt32) (r : WriteResult)
    (hb : FifoOk s.sbuf) (hc : s.sbuf.buf.size < 2 ^ 64) (hlen : len ≠ 0)
    (h : packet s seq fl off len now = .ok (r, s')) :
    ∃ payload : Array UInt8,
      s'.out = s.out.push (.packet (buildHeader s seq fl (s.rcv_wnd >>> s.rwnd_scale.toUInt32).toUInt16 now ++ payload)) ∧
      payload.size = len.toNat ∧ ∀ j, j < len.toNat → payload[j]?.getD 0 = byteAt s.sbuf (off.toNat + j) := by
  unfold packet at h
  rcases ite_ok h with ⟨_, h⟩ | ⟨_, h⟩
  · cases h
  · rcases ite_ok h with ⟨_, h⟩ | ⟨_, h⟩
    · cases h
    · obtain ⟨buffer, hbuf, h⟩ := bind_ok h
      rw [if_pos (by simpa using hlen)] at hbuf
      obtain ⟨bytes, hro, hbuf⟩ := bind_ok hbuf
      have ⟨_, hg⟩ := readOffset_content ⟨hb, hc⟩ hro
      rcases ite_ok hbuf with ⟨_, hbuf⟩ | ⟨hsz, hbuf⟩
      · cases hbuf
      · cases hbuf
        have hsz : bytes.size = len.toNat := by simpa using hsz
        refine ⟨bytes, ?_, hsz, fun j hj => hg j (by omega)⟩
        rcases ite_ok h with ⟨_, h⟩ | ⟨_, h⟩ <;> (cases h; rfl)

/-- (R, first half) Storing a segment in the receive ring changes no byte of the data that is already committed
    (readable); in-order bytes become readable through `consume_write_buffer`, which only moves the `data_length` mark.
    The full (R), with the ghost stream relating `rcv_nxt`, `rlist` and ring offsets across `process`, is
    `C08_recv_stream_prefix_partial` of `Props/C08Stream`. -/
theorem C08_receiver_store_keeps_committed_partial (b b1 b2 : Fifo) (src : Array UInt8) (so n off c : Nat)
    (hb : FifoOk b) (hc : b.buf.size < 2 ^ 64) (hoff : b.data + off < b.buf.size)
    (hw : b.writeOffset src so n off = .ok (c, b1)) (hcw : b1.consumeWriteBuffer c = .ok b2) (h0 : off = 0) :
    b2.data = b.data + c ∧ (∀ i, i < b.data → byteAt b2 i = byteAt b i) ∧
    (∀ j, j < c → byteAt b2 (b.data + j) = src.getD (so + j) 0) := by
  subst h0
  obtain ⟨_, rfl⟩ := consumeWriteBuffer_eq hcw
  have ⟨_, h2, h3, h4⟩ := writeOffset_appends ⟨hb, hc⟩ hw
  exact ⟨congrArg (· + c) h2, h3, h4⟩

/-- out-of-order store (`off > 0`): committed data is untouched -/
theorem C08_out_of_order_store_keeps_committed (b b1 : Fifo) (src : Array UInt8) (so n off c : Nat)
    (hb : FifoOk b) (hc : b.buf.size < 2 ^ 64) (hoff : b.data + off < b.buf.size)
    (hw : b.writeOffset src so n off = .ok (c, b1)) :
    b1.data = b.data ∧ ∀ i, i < b.data → byteAt b1 i = byteAt b i := by
  have ⟨_, hbytes⟩ := writeOffset_content ⟨hb, hc⟩ hw
  have ⟨_, _, hdt, _⟩ := writeOffset_ok ⟨hb, hc⟩ hw
  exact ⟨hdt, fun i hi => (hbytes i (by have := hb.1; omega)).trans (if_neg (by omega))⟩

example : FifoOk (Fifo.init 8) ∧ (Fifo.init 8).data + 3 < (Fifo.init 8).buf.size :=
  ⟨fifo_init_ok 8 (by decide), by decide⟩

/-- In ESTABLISHED the FIN state machine moves to CLOSE-WAIT (which is what makes `recv` return 0 and
    `is_closed_remotely` true) only for a segment that is exactly in sequence, ends exactly at the recorded FIN position
    and fits the free receive buffer completely. -/
theorem C08_eos_requires_in_sequence_fin (s : Sock) (seg : Segment) :
    (s.rcv_nxt != 0 && seg.seq == s.rcv_nxt && s.rcv_nxt + seg.len == s.rcv_fin &&
      decide (seg.len.toNat ≤ s.rbuf.getWriteRemaining)) = true →
    seg.seq = s.rcv_nxt ∧ s.rcv_nxt + seg.len = s.rcv_fin ∧ seg.len.toNat ≤ s.rbuf.getWriteRemaining := by
  intro h
  simp only [Bool.and_eq_true, beq_iff_eq, decide_eq_true_eq] at h
  exact ⟨h.1.1.2, h.1.2, h.2⟩

end Nice.Props.C08
