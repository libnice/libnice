/-
  C09 — Pseudo-TCP always makes progress: completes, or fails with an error, never hangs.
  Theorems about `Nice.PTcp` (model of agent/pseudotcp.c): the invariants behind "never hangs silently".
  End-to-end completion after healing is a tied simulation claim (checks/C09.py), not a theorem.
-/
import Nice.Proofs.PTcpInv
-- checks/C09.py audits theorems of these two through this module
import Nice.Props.C09Window
import Nice.Props.C10Kernels
namespace Nice.Props.C09
open Nice.PTcp Nice.Gen Nice.Proofs.PTcp

/-- After every history of public operations (any packets, clock values, `WritePacket` results); the bounds are the
    constants regenerated from the source. -/
theorem C09_rto_bounded (conv : UInt32) (ops : List (UInt32 × Op)) (s' : Sock)
    (h : run (Sock.init conv) ops = .ok s') : MIN_RTO ≤ s'.rx_rto.toNat ∧ s'.rx_rto.toNat ≤ MAX_RTO := by
  have i := run_inv0 ops _ s' (init_inv0 conv) h
  have h1 := UInt32.le_iff_toNat_le.mp i.rto_lo
  have h2 := UInt32.le_iff_toNat_le.mp i.rto_hi
  rw [cMIN_RTO_toNat] at h1; rw [cMAX_RTO_toNat] at h2
  exact ⟨h1, h2⟩

theorem C09_rto_bounded_init (conv : UInt32) :
    MIN_RTO ≤ (Sock.init conv).rx_rto.toNat ∧ (Sock.init conv).rx_rto.toNat ≤ MAX_RTO := by
  show MIN_RTO ≤ cDEF_RTO.toNat ∧ cDEF_RTO.toNat ≤ MAX_RTO
  decide

example : run (Sock.init 7) [(5, .setTime 9)] = .ok (setTime (Sock.init 7) 9) := rfl

/-- The exponential back-off (limit = DEF_RTO while connecting, MAX_RTO afterwards) never leaves the bounds and never
    wraps. -/
theorem C09_backoff_doubles_to_ceiling (r lim : UInt32) (h1 : cMIN_RTO ≤ r) (h2 : r ≤ cMAX_RTO)
    (hl : lim = cDEF_RTO ∨ lim = cMAX_RTO) :
    (min lim (r * 2)).toNat = min lim.toNat (2 * r.toNat) ∧ cMIN_RTO ≤ min lim (r * 2) ∧ min lim (r * 2) ≤ cMAX_RTO :=
  ⟨backoff_toNat r lim h2, backoff_range r lim ⟨h1, h2⟩ hl⟩

example : cMIN_RTO ≤ (2000 : UInt32) ∧ (2000 : UInt32) ≤ cMAX_RTO := by decide

/-- A segment that has been transmitted 30 times (15 in ESTABLISHED) is not transmitted again: `transmit` reports
    ETIMEDOUT, which every caller turns into `closedown` with that error, i.e. a `Closed` callback — the connection fails
    with an error instead of retrying for ever. -/
theorem C09_transmit_gives_up (s : Sock) (idx : Nat) (now : UInt32) (seg : SSeg)
    (hseg : s.slist[idx]? = some seg) (hx : seg.xmit ≥ (if s.state = .established then 15 else 30)) :
    transmit s idx now = .ok (.ETIMEDOUT, s) := by
  unfold transmit
  simp [hseg, hx, pure, Except.pure]

example : ∃ (s : Sock) (seg : SSeg), s.slist[0]? = some seg ∧ seg.xmit ≥ (if s.state = .established then 15 else 30) :=
  ⟨{ Sock.init 0 with slist := [{ seq := 0, len := 1, xmit := 30, flags := 0, unsent := false }] }, _, rfl, by decide⟩

/-- `closedown` with a non-zero error always reports it: the `Closed` callback is appended to the event list. -/
theorem setStateClosed_reports (s s' : Sock) (e : Err) (he : e ≠ .none) (h : setStateClosed s e = .ok s') :
    s'.state = .closed ∧ s'.out.back? = some (.closed e) := by
  rw [setStateClosed_eq h, if_pos (by simpa using he)]
  exact ⟨rfl, by simp⟩

theorem min64_le (a b : UInt64) : (min a b).toNat ≤ b.toNat ∧ (min a b).toNat ≤ a.toNat := by
  rw [show min a b = if a ≤ b then a else b from rfl]
  split <;> rename_i hh <;> rw [UInt64.le_iff_toNat_le] at hh <;> omega

/-- for every `*timeout` passed in -/
theorem getNextClock_open (s : Sock) (t0 : UInt64) (clk : UInt32) (hs : s.shutdown = .none) (hc : s.state ≠ .closed) :
    ∃ t, getNextClock s t0 clk = .ok (true, t, s) ∧
      ((getCurrentTime s clk).toNat + DEFAULT_TIMEOUT < 2 ^ 32 → t.toNat ≤ (getCurrentTime s clk).toNat + DEFAULT_TIMEOUT) := by
  have c1 : ¬ s.shutdown = .forceful := by rw [hs]; decide
  have c2 : ∀ b : Bool, ¬ (decide (s.shutdown = .graceful) && b) = true := by rw [hs]; intro b; exact Bool.false_ne_true
  have c3 : ¬ (s.support_fin_ack && decide (s.state = .closed)) = true := by simp [hc]
  have c4 : ¬ (decide (s.state = .closed) && !s.support_fin_ack) = true := by simp [hc]
  -- test by test: `simp` or `rfl` over the whole body with its undecided `if`s costs 10^7 heartbeats
  unfold getNextClock
  rw [if_neg c1, if_neg (c2 _), if_neg c3]
  generalize getCurrentTime s clk = now
  have hadd : ∀ k : Nat, k ≤ DEFAULT_TIMEOUT → now.toNat + DEFAULT_TIMEOUT < 2 ^ 32 →
      ((now + UInt32.ofNat k).toUInt64).toNat = now.toNat + k := by
    intro k hk hw
    have : DEFAULT_TIMEOUT = 4000 := rfl
    rw [UInt32.toNat_toUInt64, UInt32.toNat_add, UInt32.toNat_ofNat', Nat.mod_eq_of_lt (a := k) (by omega)]
    exact Nat.mod_eq_of_lt (by omega)
  have hopt : ∀ (c : Prop) [Decidable c] (a x : UInt64), (if c then min a x else a).toNat ≤ a.toNat := by
    intro c _ a x
    split
    · exact (min64_le a x).2
    · exact Nat.le_refl _
  by_cases hT : (s.support_fin_ack && decide (s.state = .timeWait)) = true
  · simp only [if_pos hT]
    refine ⟨_, rfl, fun hw => Nat.le_trans (min64_le _ _).1 ?_⟩
    rw [hadd TIME_WAIT_TIMEOUT (by decide) hw]
    exact Nat.add_le_add_left (by decide) _
  · simp only [if_neg hT, if_neg c4]
    refine ⟨_, rfl, fun hw => ?_⟩
    refine Nat.le_trans (hopt _ _ _) (Nat.le_trans (hopt _ _ _) (Nat.le_trans (hopt _ _ _) ?_))
    exact Nat.le_trans (min64_le _ _).1 (Nat.le_of_eq (hadd _ (Nat.le_refl _) hw))

/-- While a socket is not closed and no pre-FIN-ACK shutdown is pending, the clock interface names a deadline (returns
    TRUE). -/
theorem C09_next_clock_finite (s : Sock) (t0 : UInt64) (clk : UInt32) (hs : s.shutdown = .none)
    (hc : s.state ≠ .closed) : ∃ t, getNextClock s t0 clk = .ok (true, t, s) :=
  (getNextClock_open s t0 clk hs hc).imp fun _ h => h.1

example : (Sock.init 0).shutdown = .none ∧ (Sock.init 0).state ≠ .closed := by decide

/-- The deadline is at most `DEFAULT_TIMEOUT` (4 s) away, as long as the 32-bit millisecond clock does not wrap within that
    interval (at the wrap the sum is computed modulo 2^32, see DESIGN section 8 item 9). -/
theorem C09_next_clock_le_4000 (s : Sock) (clk : UInt32) (hs : s.shutdown = .none) (hc : s.state ≠ .closed)
    (hw : (getCurrentTime s clk).toNat + DEFAULT_TIMEOUT < 2 ^ 32) (t : UInt64)
    (h : getNextClock s 0 clk = .ok (true, t, s)) :
    t.toNat ≤ (getCurrentTime s clk).toNat + DEFAULT_TIMEOUT := by
  obtain ⟨t', e, hle⟩ := getNextClock_open s 0 clk hs hc
  rw [e] at h
  cases h
  exact hle hw

example : (getCurrentTime (Sock.init 0) 1000).toNat + DEFAULT_TIMEOUT < 2 ^ 32 := by decide

end Nice.Props.C09
