/-
  C05 — no byte string makes the STUN message code misbehave.
  No-fault / in-bounds theorems over the faulting model `Nice.Stun` (every read and write of caller
  memory is bounds checked there and yields `Fault.oob`; `assert` is `Fault.assertFailed`): for all
  byte strings, all buffer splits (empty buffers included), all configurations.
  The runtime conjunct (no sanitizer report in the compiled C) is observed by the harness, not proved.
-/
import Nice.Proofs.StunReply
import Nice.Props.C06
namespace Nice.Props.C05
open Nice.Stun Nice.Spec.Stun Nice.Gen

/-- `stun_message_validate_buffer_length` returns a verdict for every byte string -/
theorem C05_no_fault_validate_buffer_length (bs : Bytes) (pad : Bool) : ∃ r, validateLen bs pad = .ok r :=
  ⟨_, validateLen_eq bs pad⟩

/-- `stun_message_validate_buffer_length_fast` returns a verdict for every vector of buffers —
    empty buffers anywhere included (fix 669dd63) — when `total_length` is the number of bytes held -/
theorem C05_no_fault_validate_buffer_length_fast (bufs : Array Bytes) (pad : Bool) :
    ∃ r, validateFast bufs (C06.flatten bufs).size pad = .ok r := by
  have := validateFast_eq bufs pad
  simp only [C06.flatten, List.size_toArray]
  exact ⟨_, this⟩

/-- `stun_message_find` returns (found / not found) on every packet the length validation accepts -/
theorem C05_no_fault_find (a : Option Cfg) (pkt : Bytes) (t : UInt16) (hv : Valid a pkt) :
    ∃ r, find a pkt t = .ok r := by
  obtain ⟨w, _, hB⟩ := hv.built
  obtain ⟨r, h, _⟩ := find_built_inside a pkt w t hB; exact ⟨r, h⟩

/-- anything an accessor returns lies inside the packet (behind the 20-byte header and the 4-byte
    attribute header) -/
theorem C05_accessor_inside (a : Option Cfg) (pkt : Bytes) (t : UInt16) (off : Nat) (len : UInt16)
    (hv : Valid a pkt) (hf : find a pkt t = .ok (some (off, len))) :
    24 ≤ off ∧ off + len.toNat ≤ pkt.size := by
  obtain ⟨w, hw, hB⟩ := hv.built
  obtain ⟨r, h, hin⟩ := find_built_inside a pkt w t hB
  rw [hf] at h
  injection h with h
  exact hw ▸ hin off len h.symm

/-- every typed accessor returns a status on a validated packet (no read outside the packet) -/
theorem C05_no_fault_accessors (a : Option Cfg) (pkt : Bytes) (t : UInt16) (hv : Valid a pkt) :
    (∃ r, hasAttribute a pkt t = .ok r) ∧ (∃ r, findFlag a pkt t = .ok r) ∧
    (∃ r, find32 a pkt t = .ok r) ∧ (∃ r, find64 a pkt t = .ok r) ∧
    (∀ n, ∃ r, findString a pkt t n = .ok r) ∧ (∀ n, ∃ r, findAddr a pkt t n = .ok r) ∧
    (∃ r, findError a pkt = .ok r) :=
  let ⟨_, _, hB⟩ := hv.built
  ⟨hasAttribute_ok hB t, findFlag_ok hB t, find32_ok hB t, find64_ok hB t, findString_ok hB t, findAddr_ok hB t,
    findError_ok hB⟩

/-- the XOR-mapped accessors likewise (they read the 16 transaction-id bytes of the header) -/
theorem C05_no_fault_xor_accessors (a : Option Cfg) (pkt : Bytes) (t : UInt16) (n : Nat) (cookie : UInt32)
    (hv : Valid a pkt) : ∃ r, findXorAddrFull a pkt t n cookie = .ok r := by
  obtain ⟨w, hw, hB⟩ := hv.built
  obtain ⟨r, hr⟩ := findAddr_ok hB t n
  have h20 : 20 ≤ pkt.size := hw ▸ hB.ge20
  unfold findXorAddrFull
  rw [hr]
  obtain ⟨ret, ad, al⟩ := r
  cases ret <;> cases ad <;> try exact ⟨_, rfl⟩
  rename_i sa
  simp only
  obtain ⟨x, hx⟩ := xorAddress_ok pkt sa al cookie h20
  rw [hx]
  exact ⟨_, rfl⟩

/-- the unknown-attribute scan (`stun_agent_find_unknowns`) never leaves the packet -/
theorem C05_no_fault_find_unknowns (ag : Agent) (pkt : Bytes) (max : Nat) (hv : Valid (some ag.cfg) pkt) :
    ∃ r, findUnknowns ag pkt max = .ok r := let ⟨_, _, hB⟩ := hv.built; findUnknowns_ok ag pkt max hB

/-- `stun_message_append` never touches memory outside the caller's buffer -/
theorem C05_no_fault_append (a : Option Cfg) (buf : Bytes) (type : UInt16) (n : Nat)
    (h20 : 20 ≤ buf.size) (hn : n < 2 ^ 63) : ∃ r, append a buf type n = .ok r :=
  append_ok a buf type n h20 hn

/-- `stun_agent_validate` returns a status for every byte string of length 0..65535, every
    compatibility mode, usage-flag set and agent state, every validater: no read outside the
    packet, no failed assertion (`stun_sha1`'s `assert (len >= 44)` included), all loops terminate
    (the model is a total Lean function). -/
theorem C05_no_fault_agent_validate (H : Hashes) (ag : Agent) (buffer : Bytes) (v : Validater) (u : Nat)
    (hs : buffer.size < 65536) : ∃ r, validate H ag buffer v u = .ok r :=
  validate_ok H ag buffer v u hs

/-- `stun_agent_finish_message` returns a length or 0 for every well-formed builder state (any
    capacity up to 65535, agent, key): no access outside the caller's buffer, `assert (len >= 44)` in
    stun_sha1 holds.  Hypothesis on the parameter HMAC: it returns 20 bytes. -/
theorem C05_no_fault_finish_message (H : Hashes) (hH : ∀ k t, (H.hmac k t).size = 20) (ag : Agent) (msg : Msg)
    (key : Option Bytes) (w : UInt16) (hB : Built (some ag.cfg) msg.buf w) (hcap : msg.buf.size ≤ 65535) :
    ∃ r, finishMessage H ag msg key = .ok r :=
  ok_of_total (finishMessage_spec H hH ag msg key hcap ⟨rfl, w, hB⟩)

/-- the usage-level builders (binding request, binding keepalive, ICE connectivity check) return a
    length or 0 for every output buffer of 0..65535 bytes (agent SOFTWARE string valid UTF-8) -/
theorem C05_no_fault_usage_builders (H : Hashes) (hH : ∀ k t, (H.hmac k t).size = 20) (ag : Agent) (buf id : Bytes)
    (hsw : SoftwareOk ag) (hcap : buf.size ≤ 65535) :
    (∃ r, bindCreate H ag buf id = .ok r) ∧ (∃ r, bindKeepalive H ag buf id = .ok r) ∧
    (∀ username password candUse controlling priority tie candidateId compat,
      (∀ u, username = some u → u.size < 2 ^ 63) → (∀ c, candidateId = some c → c.size < 2 ^ 62) →
      ∃ r, iceConncheckCreate H ag buf id username password candUse controlling priority tie candidateId compat = .ok r) :=
  ⟨ok_of_total (bindCreate_good H hH ag buf id hsw hcap), ok_of_total (bindKeepalive_good H hH ag buf id hcap),
   fun username password candUse controlling priority tie candidateId compat hu hc =>
     ok_of_total (iceConncheckCreate_good H hH ag buf id username password candUse controlling priority tie
       candidateId compat hsw hcap hu hc)⟩

/-- reply construction: `stun_usage_ice_conncheck_create_reply` returns a status for every validated
    request and every output buffer size (0..1300 in the property; proved for 0..65535), source
    address, role, tie-breaker and dialect; the `assert (0)` behind `failure:` is unreachable -/
theorem C05_no_fault_create_reply (H : Hashes) (hH : ∀ k t, (H.hmac k t).size = 20) (ag : Agent) (req old : Msg)
    (buf : Bytes) (src : SockAddr) (srclen : Nat) (control : Bool) (tie : UInt64) (compat : Nat)
    (hsw : SoftwareOk ag) (hcap : buf.size ≤ 65535) (hreq : Valid req.agent req.buf) :
    ∃ r, iceCreateReply H ag req old buf src srclen control tie compat = .ok r :=
  iceCreateReply_ok H hH ag req old buf src srclen control tie compat hsw hcap hreq

/-! ### non-vacuity -/

example : Valid none C06.msg28 :=
  ⟨(C06.C06_length_iff_grammar _ _ _).mpr C06.msg28_wf, by decide⟩

example : ∃ r, validate ⟨fun _ _ => #[], fun _ => #[]⟩ (agentInit [] 1 1) #[0x80, 1, 2] none 0 = .ok r :=
  C05_no_fault_agent_validate _ _ _ _ _ (by decide)

end Nice.Props.C05
