import Nice.Model.PTcp
/-! # C09: the receive window as the peer sees it (window scaling)

Kernel-level theorems about `resize_receive_buffer`'s scale loop and the window field of `packet`
(the model's `scaleLoop`, `advWnd`, `advField`, tied to agent/pseudotcp.c by the ptcp_drv streams):
the two places a seeded change (C09f) and a genuine defect (3fc62b4) went wrong. -/
namespace Nice.Props.C09Window
open Nice.PTcp

theorem scaleLoop_spec : ∀ (fuel : Nat) (n : UInt32) (sc : UInt8) (k : Nat), n.toNat < 2 ^ (16 + k) → k ≤ fuel →
    sc.toNat + fuel ≤ 255 →
    (scaleLoop fuel n sc).1.toNat ≤ 0xFFFF ∧ (n ≠ 0 → (scaleLoop fuel n sc).1 ≠ 0) ∧
    (scaleLoop fuel n sc).1.toNat * 2 ^ (scaleLoop fuel n sc).2.toNat ≤ n.toNat * 2 ^ sc.toNat ∧
    (scaleLoop fuel n sc).2.toNat ≤ sc.toNat + k
  | 0, n, sc, k, h, hk, _ => by
    obtain rfl : k = 0 := by omega
    exact ⟨by show n.toNat ≤ 65535; omega, id, Nat.le_refl _, Nat.le_refl _⟩
  | f + 1, n, sc, k, h, hk, hs => by
    unfold scaleLoop
    have hgt : (n > 0xFFFF) ↔ 65535 < n.toNat := UInt32.lt_iff_toNat_lt
    split
    · rename_i hn
      rw [hgt] at hn
      obtain ⟨k', rfl⟩ : ∃ k', k = k' + 1 := by
        rcases k with _ | k
        · simp at h; omega
        · exact ⟨k, rfl⟩
      have hshr : (n >>> 1).toNat = n.toNat / 2 := by rw [UInt32.toNat_shiftRight]; rfl
      have hsc : (sc + 1).toNat = sc.toNat + 1 := by
        rw [UInt8.toNat_add]; exact Nat.mod_eq_of_lt (by show _ + 1 < _; omega)
      have hp : 2 ^ (16 + (k' + 1)) = 2 * 2 ^ (16 + k') := by rw [← Nat.add_assoc, Nat.pow_succ, Nat.mul_comm]
      obtain ⟨h1, h2, h3, h4⟩ := scaleLoop_spec f (n >>> 1) (sc + 1) k' (by rw [hshr]; omega) (by omega) (by omega)
      refine ⟨h1, fun _ => h2 (fun e => ?_), ?_, by omega⟩
      · rw [e] at hshr
        have : (0 : UInt32).toNat = 0 := rfl
        omega
      · rw [hshr, hsc, Nat.pow_succ, ← Nat.mul_assoc, Nat.mul_right_comm] at h3
        exact Nat.le_trans h3 (Nat.mul_le_mul_right _ (Nat.div_mul_le_self _ _))
    · rename_i hn
      rw [hgt] at hn
      exact ⟨by show n.toNat ≤ 65535; omega, id, Nat.le_refl _, Nat.le_add_right _ _⟩

theorem C09_scaled_buffer_fits_window_field (n : UInt32) : (scaleLoop 33 n 0).1.toNat ≤ 0xFFFF :=
  (scaleLoop_spec 33 n 0 16 n.toNat_lt (by decide) (by decide)).1

/-- **an empty receive buffer of any configured size advertises an open window**: for every requested size `v ≠ 0`,
    with `(n, k)` the result of the scale loop of `resize_receive_buffer`, the buffer gets `n << k` bytes, and a window of
    that many bytes is written into the header as `n`, which fits 16 bits and is not 0. -/
theorem C09_empty_buffer_advertises_open_window (v : UInt32) (hv : v ≠ 0) :
    let r := scaleLoop 33 v 0
    advField (r.1 <<< r.2.toUInt32) r.2 = r.1.toUInt16 ∧ r.1.toUInt16 ≠ 0 ∧ r.2 ≤ 16 := by
  intro r
  obtain ⟨hfit, hnz, hprod, hcnt⟩ := scaleLoop_spec 33 v 0 16 v.toNat_lt (by decide) (by decide)
  replace hfit : r.1.toNat ≤ 0xFFFF := hfit
  replace hnz : r.1 ≠ 0 := hnz hv
  replace hprod : r.1.toNat * 2 ^ r.2.toNat ≤ v.toNat := by simpa using hprod
  replace hcnt : r.2.toNat ≤ 16 := by simpa using hcnt
  have hv32 := v.toNat_lt
  have hsc32 : r.2.toUInt32.toNat = r.2.toNat := by simp
  have hmod : r.2.toNat % 32 = r.2.toNat := Nat.mod_eq_of_lt (by omega)
  have hshl : (r.1 <<< r.2.toUInt32).toNat = r.1.toNat * 2 ^ r.2.toNat := by
    rw [UInt32.toNat_shiftLeft, hsc32, hmod, Nat.shiftLeft_eq]
    exact Nat.mod_eq_of_lt (by omega)
  have hback : (r.1 <<< r.2.toUInt32) >>> r.2.toUInt32 = r.1 := by
    apply UInt32.toNat_inj.mp
    rw [UInt32.toNat_shiftRight, hshl, hsc32, hmod, Nat.shiftRight_eq_div_pow]
    exact Nat.mul_div_cancel _ (Nat.pow_pos (by decide))
  refine ⟨by show ((r.1 <<< r.2.toUInt32) >>> r.2.toUInt32).toUInt16 = _; rw [hback], ?_, ?_⟩
  · intro h0
    apply hnz
    apply UInt32.toNat_inj.mp
    have : r.1.toUInt16.toNat = 0 := by rw [h0]; rfl
    rw [UInt32.toNat_toUInt16] at this
    have : r.1.toNat % 65536 = 0 := by simpa using this
    show r.1.toNat = 0
    omega
  · exact UInt8.le_iff_toNat_le.mpr (by simpa using hcnt)

/-- the test `recv` uses to decide that the peer was told "window closed" (fix 3fc62b4) agrees with the window field
    `packet` writes, whenever the scaled window fits the field (it does: the receive window never exceeds the buffer) -/
theorem C09_closed_test_matches_field (w : UInt32) (sc : UInt8) (h : (w >>> sc.toUInt32).toNat < 65536) :
    advField w sc = 0 ↔ (advWnd w sc == 0) = true := by
  show (w >>> sc.toUInt32).toUInt16 = 0 ↔ ((w >>> sc.toUInt32) == 0) = true
  constructor
  · intro h0
    have : ((w >>> sc.toUInt32).toUInt16).toNat = 0 := by rw [h0]; rfl
    rw [UInt32.toNat_toUInt16] at this
    have h2 : (w >>> sc.toUInt32).toNat = 0 := by omega
    have : (w >>> sc.toUInt32) = 0 := UInt32.toNat_inj.mp h2
    simp [this]
  · intro h0
    have : (w >>> sc.toUInt32) = 0 := by simpa using h0
    rw [this]; rfl

example : scaleLoop 33 65536 0 = (32768, 1) := by decide
example : scaleLoop 33 1048576 0 = (32768, 5) := by decide
example : scaleLoop 33 61440 0 = (61440, 0) := by decide
-- the state the defect needed: window 1 with scale 1 is advertised as 0 although rcv_wnd ≠ 0
example : advField 1 1 = 0 ∧ ((1 : UInt32) == 0) = false := by decide

end Nice.Props.C09Window
