/-
  C20 — completion is announced only when every discovery item is done.
  The theorems are about the accounting skeleton of agent/discovery.c priv_discovery_tick_unlocked that
  tools/extract_ctl.py REGENERATES from the source on every run (Nice/Gen/DiscoveryTick.lean): which branches
  count an item as outstanding (`++not_done`), which pace (`++need_pacing`), which mark it done.  They hold for
  every outcome of the code the skeleton does not track (all oracle values).
  Namespace `Nice.Props.C20`, as in Props/C20.lean, which imports this module.
-/
import Nice.Gen.DiscoveryTick
namespace Nice.Props.C20
open Nice.Ctl Nice.Gen

/-- what one loop iteration started with `need_pacing = 0` guarantees -/
def BodyOk (s : S) (r : S × Flow) : Prop :=
  s.not_done ≤ r.1.not_done ∧
  (r.2 = .brk → s.not_done < r.1.not_done) ∧
  ((r.2 = .norm ∨ r.2 = .cont) → r.1.need_pacing = 0 ∧ (r.1.c.done = true ∨ s.not_done < r.1.not_done)) ∧
  r.2 ≠ .sbrk ∧ (∀ v, r.2 ≠ .ret v)

theorem bodyOk_ite {c : Prop} [Decidable c] {s : S} {a b : S × Flow}
    (ht : c → BodyOk s a) (hf : ¬c → BodyOk s b) : BodyOk s (if c then a else b) := by
  by_cases h : c
  · rw [if_pos h]; exact ht h
  · rw [if_neg h]; exact hf h

/-- one loop iteration: the item is either counted as outstanding, or done; the loop is left early only
    after something was counted.  (Site-agnostic proof: the regenerated body is a tree of `if`s; every leaf is
    checked under the conditions on its path.) -/
theorem tick_body_spec (o : Nat → Nat) (s : S) (h0 : s.need_pacing = 0) :
    BodyOk s (discovery_tick_body o s) := by
  unfold discovery_tick_body
  repeat' (apply bodyOk_ite <;> intro _)
  all_goals (simp_all [BodyOk])

/-- the loop: if nothing was counted as outstanding, every item of the list has been visited and is done -/
theorem forEach_spec (body : (Nat → Nat) → Stmt) (o : Nat → Nat → Nat)
    (hb : ∀ o s, s.need_pacing = 0 → BodyOk s (body o s)) :
    ∀ (items : List Item) (k : Nat) (s : S), s.need_pacing = 0 →
      s.not_done ≤ (forEach body o k s items).1.not_done ∧
      ((forEach body o k s items).2.2 = .norm ∨ (forEach body o k s items).2.2 = .abort) ∧
      ((forEach body o k s items).2.2 = .norm → (forEach body o k s items).1.not_done = s.not_done →
         ∀ it ∈ (forEach body o k s items).2.1, it.done = true) := by
  intro items
  induction items with
  | nil => intro k s _; simp [forEach]
  | cons it rest ih =>
    intro k s h0
    have hB := hb (o k) { s with c := it } h0
    generalize hr : body (o k) { s with c := it } = r at hB
    obtain ⟨s', f⟩ := r
    obtain ⟨h1, h2, h3, h4, h5⟩ := hB
    dsimp only at h1 h2 h3 h4 h5
    cases f with
    | norm | cont =>
      obtain ⟨hnp, hd⟩ := h3 (by simp)
      obtain ⟨i1, i2, i3⟩ := ih (k + 1) s' hnp
      simp only [forEach, hr]
      refine ⟨by omega, i2, ?_⟩
      intro hn he x hx
      simp only [List.mem_cons] at hx
      rcases hx with rfl | hx
      · rcases hd with hd | hd
        · exact hd
        · omega
      · exact i3 hn (by omega) x hx
    | brk =>
      have := h2 rfl
      simp only [forEach, hr]
      refine ⟨by omega, by simp, ?_⟩
      intro _ he; omega
    | sbrk => exact absurd rfl h4
    | ret v => exact absurd rfl (h5 v)
    | abort =>
      simp only [forEach, hr]
      exact ⟨h1, by simp, fun h => by simp at h⟩

/-- **C20_done_only_when_all_done.**  Whatever the untracked code does (send failures, timer outcomes, clock
    readings: all oracle values), if priv_discovery_tick_unlocked takes its "FINISHED" exit — frees the
    discovery list and announces candidate-gathering-done — then every discovery item on the list is done:
    none is pending with a request still inside its retransmission schedule. -/
theorem C20_done_only_when_all_done (o : Nat → Nat → Nat) (items : List Item)
    (h : (discovery_tick o items).2.2 = .ret false) :
    ∀ it ∈ (discovery_tick o items).2.1, it.done = true := by
  have hs := forEach_spec discovery_tick_body o tick_body_spec items 0 discovery_tick_init rfl
  unfold discovery_tick at h ⊢
  generalize forEach discovery_tick_body o 0 discovery_tick_init items = r at hs h ⊢
  obtain ⟨s, its, f⟩ := r
  obtain ⟨h1, h2, h3⟩ := hs
  dsimp only at h1 h2 h3
  rcases h2 with rfl | rfl
  · dsimp only at h ⊢
    unfold discovery_tick_tail at h
    by_cases hz : (s.not_done == 0) = true
    · have hz' : s.not_done = 0 := by simpa using hz
      exact h3 rfl (by simp [hz', discovery_tick_init])
    · rw [if_neg hz] at h; simp at h
  · simp at h

/-- the function has exactly the two return values, or does not return (noreturn call) -/
theorem C20_tick_return_values (o : Nat → Nat → Nat) (items : List Item) :
    (discovery_tick o items).2.2 = .ret false ∨ (discovery_tick o items).2.2 = .ret true ∨
    (discovery_tick o items).2.2 = .abort := by
  have hs := forEach_spec discovery_tick_body o tick_body_spec items 0 discovery_tick_init rfl
  unfold discovery_tick
  generalize forEach discovery_tick_body o 0 discovery_tick_init items = r at hs ⊢
  obtain ⟨s, its, f⟩ := r
  obtain ⟨_, h2, _⟩ := hs
  dsimp only at h2
  rcases h2 with rfl | rfl
  · dsimp only [discovery_tick_tail]
    by_cases hz : (s.not_done == 0) = true
    · rw [if_pos hz]; simp
    · rw [if_neg hz]; simp
  · simp

example : (discovery_tick (fun _ _ => 1) [{ pending := true, done := true }, { pending := true, done := true }]).2.2 = .ret false := by
  decide
example : (discovery_tick (fun _ _ => 1) [{ pending := true, done := true }, { pending := false }]).2.2 = .ret true := by
  decide

end Nice.Props.C20
