/-
  C16 — "data addressed to a peer without a permission is held": proved about the skeleton of socket/udp-turn.c
  socket_send_message REGENERATED from the source on every run (`Nice.Gen.TurnSend.prog`): on an RFC 5766 TURN socket, on every
  path — ChannelData for a bound channel, Send indication, every early exit — a wrapped message leaves towards the relay only
  if priv_has_permission_for_peer answers yes for that destination; otherwise it is queued.  (What the queue does when the
  permission answer arrives or times out is the Turn model + the scripted-relay differential.)
-/
import Nice.Gen.TurnSend
import Nice.Proofs.FlowEval
namespace Nice.Props.C16Send
open Nice.Flow Nice.Gen.TurnSend

def hv : Havoc := fun _ _ => [0, 1]

/-- kind 3 = a wrapped message leaves towards the relay; r0 = the socket's compatibility, r1 = the answer of
    priv_has_permission_for_peer for this destination (2 = not asked) -/
def policy : Policy := fun _ kind σ =>
  kind != 3 || σ.r0 != NICE_TURN_SOCKET_COMPATIBILITY_RFC5766 || σ.r1 == 1

def init : List St := compatValues.map fun c => { r0 := c, r1 := 2 }

theorem analysis_ok : (reach hv policy prog init).ok = true := by rw [reach_ok_eq]; decide +kernel

theorem C16_no_send_without_permission {σ0 : St} (h0 : σ0 ∈ init) {tr : List Ev} {σ1 : St} {o : Out}
    (hx : Exec hv prog σ0 tr σ1 o) :
    ∀ e ∈ tr, e.kind = 3 → e.st.r0 = NICE_TURN_SOCKET_COMPATIBILITY_RFC5766 → e.st.r1 = 1 := by
  intro e he hk hc
  have hp := events_satisfy_policy analysis_ok h0 hx e he
  simpa [policy, hk, hc] using hp

/-! non-vacuity: with a permission the RFC 5766 socket does send; without one it queues (kind 9) -/
def never3 : Policy := fun _ kind _ => kind != 3
def never9 : Policy := fun _ kind _ => kind != 9
example : (reach hv never3 prog [{ r0 := NICE_TURN_SOCKET_COMPATIBILITY_RFC5766, r1 := 2 }]).ok = false := by
  rw [reach_ok_eq]; decide +kernel
example : (reach hv never9 prog [{ r0 := NICE_TURN_SOCKET_COMPATIBILITY_RFC5766, r1 := 2 }]).ok = false := by
  rw [reach_ok_eq]; decide +kernel

end Nice.Props.C16Send
