/-
  C20 — what ends a TURN discovery item, proved about the skeleton of agent/conncheck.c priv_map_reply_to_relay_request
  REGENERATED from the source on every run (`Nice.Gen.RelayReply.prog`): in the decision between "send the Allocate again with
  the fresh nonce / realm" and "a real unauthorized error", a 438 Stale Nonce answer never takes the second branch, and a 401
  takes it only through the realm comparison.  (Gathering completion is announced when every item is done — C20Tick — so an
  item ended by a 438 would complete gathering without the relayed candidate the server was about to grant: seeded C20d.)
-/
import Nice.Gen.RelayReply
import Nice.Proofs.FlowEval
namespace Nice.Props.C20Relay
open Nice.Flow Nice.Gen.RelayReply

/-- what the ERROR-CODE out-parameter may hold afterwards (code + 1; 0 = untouched, i.e. -1); representatives:
    the skeleton compares r0 only with 402 and 439 -/
def hv : Havoc := fun _ _ => [0, 1, 301, 401, codeUnauthorized, codeStaleNonce, 487, 501]

def policy : Policy := fun _ kind σ => kind != 7 || σ.r0 != codeStaleNonce

/-- r0 = ERROR-CODE + 1, r1 = `trans_found`; the second state starts with a stale 438 in the register: the function resets
    it before reading the answer's own code -/
def init : List St := [{ r0 := 0, r1 := 0 }, { r0 := codeStaleNonce, r1 := 1 }]

theorem analysis_ok : (reach hv policy prog init).ok = true := by rw [reach_ok_eq]; decide +kernel

theorem C20_stale_nonce_is_never_final {σ0 : St} (h0 : σ0 ∈ init) {tr : List Ev} {σ1 : St} {o : Out}
    (hx : Exec hv prog σ0 tr σ1 o) : ∀ e ∈ tr, e.kind = 7 → e.st.r0 ≠ codeStaleNonce := by
  intro e he hk
  have hp := events_satisfy_policy analysis_ok h0 hx e he
  simpa [policy, hk] using hp

/-! non-vacuity: the final branch is reachable (a 401 with the same realm), the re-arm branch too -/
def never7 : Policy := fun _ kind _ => kind != 7
def never6 : Policy := fun _ kind _ => kind != 6
example : (reach hv never7 prog init).ok = false := by rw [reach_ok_eq]; decide +kernel
example : (reach hv never6 prog init).ok = false := by rw [reach_ok_eq]; decide +kernel
example : nDone = 3 ∧ nRearm = 1 := by decide

end Nice.Props.C20Relay
