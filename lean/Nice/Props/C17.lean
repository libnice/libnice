/-
  C17 — Stream-based socket layers are independent of how TCP segments the bytes.

  Models (Nice/Model/*): TurnTcp (udp-turn-over-tcp.c), Rfc4571 (agent.c ICE-TCP framing), Http, Socks5,
  PseudoSsl, SendQueue (tcp-bsd.c + socket.c), over `Nice.Sock.Base` (tcp-bsd.c receive over a kernel
  stream); the machines `turnTcpM`, `rfc4571M`, … are defined in Nice/Drv/Sock.lean.  `Nice.Sock.feed` is the receive loop the driver executes and the harness runs against
  the real code; `feedAll m _ s b chunks` delivers the stream `chunks.flatten` cut as `chunks`.
-/
import Nice.Proofs.C17SendQueue
import Nice.Proofs.C17Tunnel
import Nice.Proofs.C17TurnTcp
import Nice.Proofs.C17Handshake
import Nice.Proofs.C17Rfc4571
namespace Nice.Props.C17
open Nice.Sock Nice.Drv

section TurnTcp
open Nice.TurnTcp

/-- **C17, TURN-over-TCP, no fault**: for every compatibility mode, every byte stream, every way
    of cutting it into reads, and any state of the TCP socket below (error, shut down), no index
    computed by `socket_recv_message` leaves the 65536-byte `recv_buf` and no unsigned size wraps. -/
theorem C17_turntcp_no_fault (c : Compat) (b : Base) (chunks : List Bytes) :
    (feedAll turnTcpM (fun _ => 0) { compat := c } b chunks).1.fault = false :=
  (feedAll_inv turnTcpM _ (fun x => TurnTcp.InBounds x.1) (fun x h => TurnTcp.recv_inBounds x.1 x.2.1 h) (fun _ _ _ _ h => h) chunks
    ({ compat := c }, b, {}) ⟨rfl, fun _ hl hh => by simp, fun h => by simp at h⟩).1

/-- non-vacuity: the maximum-length header (`00 01 ff ff`, RFC 5766 mode) is refused, not stored -/
example : (feedAll turnTcpM (fun _ => 0) { compat := .rfc5766 } {} [[0, 1, 0xff, 0xff], [0, 0]]).2.2.rets = [-1, -1] := by
  decide

/-- **C17, TURN-over-TCP, segmentation independence**: for every compatibility mode,
    every byte stream `s` and EVERY way `cs` of cutting it into at least one read (any number of
    cuts, empty reads allowed), the final layer state, the messages delivered upward with their
    boundaries, the bytes written downward and the error outcome are the same as when `s` arrives in
    one read.  Frames without payload are covered: no zero-size read is issued for them (f7890e0). -/
theorem C17_turntcp_split_independent (c : Compat) (s : Bytes) (cs : List Bytes)
    (hs : cs.flatten = s) (hne : cs ≠ []) :
    tOut (feedAll turnTcpM (fun _ => 0) { compat := c } {} cs) =
    tOut (feedAll turnTcpM (fun _ => 0) { compat := c } {} [s]) := by
  cases hh : headerLen c with
  | some hl => rw [TurnTcp.feedAll_spec hl c hh, TurnTcp.feedAll_spec hl c hh, hs]; simp
  | none =>
    -- MSN: the call fails, not a byte, so no read (`[]`) and one empty read (`[[]]`) differ: `hne`
    have hc : c = .msn := by cases c <;> simp [headerLen] at hh; rfl
    subst hc
    rw [TurnTcp.feedAll_spec_msn cs hne, TurnTcp.feedAll_spec_msn [s] (by simp)]

/-- non-vacuity: two frames + a partial third, cut inside a header and inside a payload -/
example : (tOut (feedAll turnTcpM (fun _ => 0) { compat := .rfc5766 } {}
    [[0x40, 0, 0], [1, 0xaa, 0, 0, 0, 0x40, 1, 0, 2, 0xbb], [0xcc, 0, 0, 0x40]])).msgs =
    [[0x40, 0, 0, 1, 0xaa, 0, 0, 0], [0x40, 1, 0, 2, 0xbb, 0xcc, 0, 0]] := by decide

/-- ChannelData with an empty payload followed by a second frame (corpus/C17/turntcp_zero_frame.ops):
    both deliveries hand up both frames -/
example :
    (tOut (feedAll turnTcpM (fun _ => 0) { compat := .rfc5766 } {} [[0x40, 0, 0, 0], [0x40, 0, 0, 2, 0xbb, 0xcc, 0, 0]])).msgs =
      [[0x40, 0, 0, 0], [0x40, 0, 0, 2, 0xbb, 0xcc, 0, 0]] ∧
    (tOut (feedAll turnTcpM (fun _ => 0) { compat := .rfc5766 } {} [[0x40, 0, 0, 0, 0x40, 0, 0, 2, 0xbb, 0xcc, 0, 0]])).msgs =
      [[0x40, 0, 0, 0], [0x40, 0, 0, 2, 0xbb, 0xcc, 0, 0]] := by decide

end TurnTcp

/-- **C17, tunnels**: once the SOCKS5 / pseudo-SSL / HTTP handshake is over, for EVERY sequence of
    reads the bytes delivered upward are exactly the bytes received, in order. -/
theorem C17_socks5_tunnel_identity (s : Nice.Socks5.St) (h : s.state = .connected) (b : Base)
    (hb : Base.Healthy b) (hp : b.pend = []) (chunks : List Bytes) :
    (feedAll socks5M (fun _ => 0) s b chunks).2.2.stream = chunks.flatten ∧
    (feedAll socks5M (fun _ => 0) s b chunks).1 = s :=
  tunnel_feedAll socks5M (fun _ => 0) s (socks5_isTunnel s h) b hb hp chunks

theorem C17_pseudossl_tunnel_identity (s : Nice.PseudoSsl.St) (h : s.handshaken = true) (b : Base)
    (hb : Base.Healthy b) (hp : b.pend = []) (chunks : List Bytes) :
    (feedAll psslM (fun _ => 0) s b chunks).2.2.stream = chunks.flatten ∧
    (feedAll psslM (fun _ => 0) s b chunks).1 = s :=
  tunnel_feedAll psslM (fun _ => 0) s (pssl_isTunnel s h) b hb hp chunks

theorem C17_http_tunnel_identity (s : Nice.Http.St) (h : s.state = .connected) (b : Base)
    (hb : Base.Healthy b) (hp : b.pend = []) (chunks : List Bytes) :
    (feedAll httpM (fun _ => 0) s b chunks).2.2.stream = chunks.flatten ∧
    (feedAll httpM (fun _ => 0) s b chunks).1 = s :=
  tunnel_feedAll httpM (fun _ => 0) s (http_isTunnel s h) b hb hp chunks

example : Base.Healthy {} ∧ ({} : Base).pend = [] := ⟨⟨rfl, rfl, rfl⟩, rfl⟩

def socks5Init : Nice.Socks5.St := (Nice.Socks5.new none none false [1, 2, 3, 4] 5678 {}).2

/-- method reply `05 00`, connect reply `05 00 00 01` + IPv4 address/port, then `hi` -/
def s5stream : Bytes := [5, 0, 5, 0, 0, 1, 10, 11, 12, 13, 0x11, 0x22, 0x68, 0x69]

/-- the witness's runs, evaluated once (likewise `http_runs`, `pssl_runs`) -/
theorem socks5_runs :
    (feedAll socks5M (fun _ => 0) socks5Init {} (s5stream.map (fun x => [x]))).1.state = .error ∧
    (feedAll socks5M (fun _ => 0) socks5Init {} [s5stream]).1.state = .connected ∧
    (feedAll socks5M (fun _ => 0) socks5Init {} [s5stream]).2.2.stream = [0x68, 0x69] := by decide

/-- **SOCKS5 is not segmentation independent**: the replies delivered whole connect and tunnel `hi`;
    delivered one byte per read the handshake fails (the code tests the capacity it passed in, not the
    number of bytes received, and parses the never-written tail of its reply array).
    Same input as corpus/C17/socks5_split.ops. -/
theorem C17_socks5_split_dependent :
    ∃ (s : Bytes) (cs : List Bytes), cs.flatten = s ∧ (∀ c ∈ cs, c ≠ []) ∧
      (feedAll socks5M (fun _ => 0) socks5Init {} cs).1.state ≠ (feedAll socks5M (fun _ => 0) socks5Init {} [s]).1.state :=
  ⟨s5stream, s5stream.map (fun x => [x]), by decide, by decide, by rw [socks5_runs.1, socks5_runs.2.1]; decide⟩

example : (feedAll socks5M (fun _ => 0) socks5Init {} [s5stream]).1.state = .connected ∧
          (feedAll socks5M (fun _ => 0) socks5Init {} [s5stream]).2.2.stream = [0x68, 0x69] := socks5_runs.2

/-- **C17, SOCKS5, each reply arrives whole** (`_partial`, per-call form): in every handshake state,
    when the complete reply is pending, the result of the receive call, the next state and the bytes
    written to the proxy are the same whatever follows the reply in the stream, and exactly the reply
    is consumed — a read boundary AT a reply boundary is harmless.  Missing for the full statement:
    iteration over the session, and CONNECT replies carrying a bound address (two reads). -/
theorem C17_socks5_whole_replies_partial (s : Nice.Socks5.St) (b : Base) (hb : Base.Healthy b) (r rest rest' : Bytes)
    (hw : Socks5.WholeReply s r) :
    (Nice.Socks5.recv s { b with pend := r ++ rest }).1 = (Nice.Socks5.recv s { b with pend := r ++ rest' }).1 ∧
    (Nice.Socks5.recv s { b with pend := r ++ rest }).2.1 = (Nice.Socks5.recv s { b with pend := r ++ rest' }).2.1 ∧
    (Nice.Socks5.recv s { b with pend := r ++ rest }).2.2.pend = rest ∧
    (Nice.Socks5.recv s { b with pend := r ++ rest' }).2.2.pend = rest' := by
  rw [socks5_whole_reply s b hb r hw rest, socks5_whole_reply s b hb r hw rest']
  exact ⟨rfl, rfl, rfl, rfl⟩

example : Socks5.WholeReply {} [5, 0] := Or.inl ⟨rfl, rfl⟩
example : Socks5.WholeReply { state := .connect } [5, 2, 0, 1] := by
  refine Or.inr (Or.inr ⟨rfl, rfl, ?_⟩); decide

/-- `HTTP/1.0 200 OK\r\nContent-Length: 5` -/
def httpA : Bytes := [72, 84, 84, 80, 47, 49, 46, 48, 32, 50, 48, 48, 32, 79, 75, 13, 10, 67, 111, 110, 116, 101, 110, 116, 45, 76, 101, 110, 103, 116, 104, 58, 32, 53]

/-- `\r\n\r\nhello` -/
def httpB : Bytes := [13, 10, 13, 10, 104, 101, 108, 108, 111]

/-- `HTTP/1.0 200 OK\r\n\r\n` -/
def httpOk : Bytes := [72, 84, 84, 80, 47, 49, 46, 48, 32, 50, 48, 48, 32, 79, 75, 13, 10, 13, 10]

theorem http_runs :
    (feedAll (httpM' 64) (fun _ => 0) {} {} [httpA ++ httpB]).1.state = .connected ∧
    (feedAll (httpM' 64) (fun _ => 0) {} {} [httpA, httpB]).1.state = .error := by decide +kernel

/-- **HTTP is not segmentation independent** (Content-Length value cut before its CR): the reply
    `HTTP/1.0 200 OK / Content-Length: 5 / (blank) / hello` connects when it arrives in one read and
    fails when the read boundary falls right after the digit `5` (the parser then reads one byte past
    the data received so far).  Same input as corpus/C17/http_cl_split.ops, which reproduces it on the
    real code with the real 1024-byte ring; here the machine is instantiated with a 64-byte initial
    ring (`httpM' 64`, the reply is 43 bytes) only to keep kernel evaluation cheap. -/
theorem C17_http_split_dependent :
    ∃ (s : Bytes) (cs : List Bytes), cs.flatten = s ∧ (∀ c ∈ cs, c ≠ []) ∧
      (feedAll (httpM' 64) (fun _ => 0) {} {} cs).1.state ≠ (feedAll (httpM' 64) (fun _ => 0) {} {} [s]).1.state :=
  ⟨httpA ++ httpB, [httpA, httpB], by decide, by decide, by rw [http_runs.1, http_runs.2]; decide⟩

example : (feedAll (httpM' 64) (fun _ => 0) {} {} [httpA ++ httpB]).1.state = .connected := http_runs.1
example : (feedAll (httpM' 64) (fun _ => 0) {} {} [httpA, httpB]).1.state = .error := http_runs.2

/-- **tunnelled bytes read together with the end of the reply are lost**: `… 200 OK\r\n\r\nhi` in one
    read reports one message of length 0 (the two bytes are copied into the caller's buffer but only
    `buffers[0].size` is overwritten); with a read boundary after the reply `hi` is delivered.
    Same input as corpus/C17/http_payload_coalesced.ops (32-byte initial ring, see above). -/
theorem C17_http_payload_lost :
    (feedAll (httpM' 32) (fun _ => 0) {} {} [httpOk ++ [104, 105]]).2.2.stream = [] ∧
    (feedAll (httpM' 32) (fun _ => 0) {} {} [httpOk ++ [104, 105]]).2.2.ups.map (·.clob) = [some [104, 105]] ∧
    (feedAll (httpM' 32) (fun _ => 0) {} {} [httpOk, [104, 105]]).2.2.stream = [104, 105] := by
  have h : (feedAll (httpM' 32) (fun _ => 0) {} {} [httpOk ++ [104, 105]]).2.2.ups = [{ data := [], clob := some [104, 105] }] := by
    decide +kernel
  exact ⟨by rw [Obs.stream, h]; rfl, by rw [h]; rfl, by decide +kernel⟩

/-- **HTTP receive window** (`_partial` no-fault: the only place the ring is written): whenever the
    ring-buffer assertions of `assert_ring_buffer_valid` hold, the two vectors handed to the base
    socket lie inside the ring, do not overlap the unread bytes, and together are exactly the free
    space.  (The parse loop only reads through `GET_BYTE`, which is reduced modulo the ring size.) -/
theorem C17_http_no_fault_step (s : Nice.Http.St) (hv : Nice.Http.ringValid s = true) (hsz : 0 < s.ring.size) :
    (Nice.Http.window s).1 + (Nice.Http.window s).2.1 ≤ s.ring.size ∧
    (Nice.Http.window s).2.2 ≤ s.pos ∧
    (Nice.Http.window s).2.1 + (Nice.Http.window s).2.2 = s.ring.size - s.fill ∧
    (s.pos + s.fill ≤ s.ring.size → (Nice.Http.window s).1 = s.pos + s.fill) ∧
    (s.pos + s.fill > s.ring.size → (Nice.Http.window s).1 = s.pos + s.fill - s.ring.size ∧
       (Nice.Http.window s).1 + (Nice.Http.window s).2.1 = s.pos) := by
  simp only [Nice.Http.ringValid, Bool.and_eq_true, decide_eq_true_eq, Bool.or_eq_true, beq_iff_eq] at hv
  obtain ⟨hf, hp⟩ := hv
  by_cases hw : s.pos + s.fill > s.ring.size
  · -- wrapped: one vector, from the end of the data up to `pos`
    have hmod : (s.pos + s.fill) % s.ring.size = s.pos + s.fill - s.ring.size := by
      rw [Nat.mod_eq_sub_mod (by omega), Nat.mod_eq_of_lt (by omega)]
    have : Nice.Http.window s = (s.pos + s.fill - s.ring.size, s.ring.size - s.fill, 0) := by
      simp only [Nice.Http.window, hw, ↓reduceIte, hmod]
    rw [this]
    dsimp only
    omega
  · have : Nice.Http.window s = (s.pos + s.fill, s.ring.size - (s.pos + s.fill), s.pos) := by
      simp only [Nice.Http.window, hw, ↓reduceIte]
    rw [this]
    dsimp only
    omega

example : Nice.Http.ringValid { ring := Array.replicate 8 0, pos := 6, fill := 5 } = true ∧
          Nice.Http.window { ring := Array.replicate 8 0, pos := 6, fill := 5 } = (3, 3, 0) := by decide

/-- the Google-compatible server hello -/
def psslHello : Bytes := [22, 3, 1, 0, 74, 2, 0, 0, 70, 3, 1, 66, 133, 69, 167, 39, 169, 93, 160, 179, 197, 231, 83, 218, 72, 43, 63, 198, 90, 202, 137, 193, 88, 82, 161, 120, 60, 91, 23, 70, 0, 133, 63, 32, 14, 211, 6, 114, 91, 91, 27, 95, 21, 172, 19, 249, 136, 83, 157, 155, 232, 61, 123, 12, 48, 50, 110, 56, 77, 162, 117, 87, 65, 108, 52, 92, 0, 4, 0]

theorem pssl_runs :
    (feedAll psslM (fun _ => 0) { compat := .google } {} [psslHello.take 10, psslHello.drop 10 ++ [104, 105]]).1.handshaken = false ∧
    (feedAll psslM (fun _ => 0) { compat := .google } {} [psslHello ++ [104, 105]]).1.handshaken = true ∧
    (feedAll psslM (fun _ => 0) { compat := .google } {} [psslHello ++ [104, 105]]).2.2.stream = [104, 105] := by decide

/-- **pseudo-SSL is not segmentation independent**: the exact server hello followed by `hi`
    handshakes in one read and fails when the hello is cut after 10 bytes (same input as
    corpus/C17/pseudossl_split.ops). -/
theorem C17_pseudossl_split_dependent :
    ∃ (s : Bytes) (cs : List Bytes), cs.flatten = s ∧ (∀ c ∈ cs, c ≠ []) ∧
      (feedAll psslM (fun _ => 0) { compat := .google } {} cs).1.handshaken ≠
      (feedAll psslM (fun _ => 0) { compat := .google } {} [s]).1.handshaken :=
  ⟨psslHello ++ [104, 105], [psslHello.take 10, psslHello.drop 10 ++ [104, 105]], by decide, by decide,
    by rw [pssl_runs.1, pssl_runs.2.1]; decide⟩

example : (feedAll psslM (fun _ => 0) { compat := .google } {} [psslHello ++ [104, 105]]).2.2.stream = [104, 105] :=
  pssl_runs.2.2

/-- **pseudo-SSL, the hello arrives whole** (`_partial`, per-call form): when the complete server
    hello is pending, the outcome of the handshake call and the bytes flushed downward do not depend
    on what follows it, and exactly the hello is consumed. -/
theorem C17_pseudossl_whole_hello_partial (s : Nice.PseudoSsl.St) (hs : s.handshaken = false) (b : Base)
    (hb : Base.Healthy b) (r rest rest' : Bytes) (hr : r.length = (Nice.PseudoSsl.serverHello s.compat).length) :
    (Nice.PseudoSsl.recv s { b with pend := r ++ rest }).1 = (Nice.PseudoSsl.recv s { b with pend := r ++ rest' }).1 ∧
    (Nice.PseudoSsl.recv s { b with pend := r ++ rest }).2.1 = (Nice.PseudoSsl.recv s { b with pend := r ++ rest' }).2.1 ∧
    (Nice.PseudoSsl.recv s { b with pend := r ++ rest }).2.2.pend = rest ∧
    (Nice.PseudoSsl.recv s { b with pend := r ++ rest' }).2.2.pend = rest' := by
  rw [pssl_whole_hello s hs b hb r hr rest, pssl_whole_hello s hs b hb r hr rest']
  exact ⟨rfl, rfl, rfl, rfl⟩

section Rfc4571
open Nice.Rfc4571

/-- **C17, RFC 4571 reassembly, segmentation independence**: for every byte stream
    `s`, EVERY way `cs` of cutting it into reads (any cuts, empty reads allowed) and every out-of-band
    classification `handled` of extracted frames, the messages handed to the application (with their
    boundaries), the unconsumed buffered bytes, the frame bookkeeping (`frame_size`, `consumed_size`),
    the bytes written and the error outcome are the same as when `s` arrives in one read.
    (Raw `rfc4571_buffer_offset` / `frame_offset` are history dependent — the buffer is compacted on
    refill — and are compared through the bytes between them.) -/
theorem C17_rfc4571_split_independent (handled : Bytes → Bool) (s : Bytes) (cs : List Bytes) (hs : cs.flatten = s) :
    rOut (feedAll (rfc4571M handled) (fun s => s.buf.length) {} {} cs) =
    rOut (feedAll (rfc4571M handled) (fun s => s.buf.length) {} {} [s]) := by
  rw [(Rfc4571.feedAll_spec handled cs).2, (Rfc4571.feedAll_spec handled [s]).2, hs]; simp

/-- … and what is delivered is what an independent frame parser finds in the stream: the non-empty,
    not out-of-band payloads of the complete frames, in order; the incomplete tail stays buffered. -/
theorem C17_rfc4571_delivers_frames (handled : Bytes → Bool) (cs : List Bytes) :
    (feedAll (rfc4571M handled) (fun s => s.buf.length) {} {} cs).2.2.msgs =
      (parse cs.flatten.length cs.flatten).1.filter (deliverable handled) ∧
    (feedAll (rfc4571M handled) (fun s => s.buf.length) {} {} cs).1.buf.drop
      (feedAll (rfc4571M handled) (fun s => s.buf.length) {} {} cs).1.fo = (parse cs.flatten.length cs.flatten).2 :=
  ⟨congrArg ROut.msgs (Rfc4571.feedAll_spec handled cs).2, congrArg ROut.leftover (Rfc4571.feedAll_spec handled cs).2⟩

/-- **C17, RFC 4571 reassembly, no fault**: for every stream and every cut list (socket not shut
    down) no offset leaves the 65537-byte `rfc4571_buffer`: `frame_offset ≤ buffer_offset ≤ size`,
    the fault flag of the model (every bounds check and unsigned subtraction) stays clear. -/
theorem C17_rfc4571_no_fault (handled : Bytes → Bool) (cs : List Bytes) :
    (feedAll (rfc4571M handled) (fun s => s.buf.length) {} {} cs).1.fault = false ∧
    (feedAll (rfc4571M handled) (fun s => s.buf.length) {} {} cs).1.fo ≤
      (feedAll (rfc4571M handled) (fun s => s.buf.length) {} {} cs).1.buf.length ∧
    (feedAll (rfc4571M handled) (fun s => s.buf.length) {} {} cs).1.buf.length ≤ BUFSIZE :=
  have h := (Rfc4571.feedAll_spec handled cs).1
  ⟨h.1, h.2.1, h.2.2.1⟩

/-- non-vacuity: three frames (one empty), cut in the middle of a length prefix and of a payload -/
example : (feedAll (rfc4571M fun _ => false) (fun s => s.buf.length) {} {}
    [[0, 3, 0x41, 0x42], [0x43, 0, 0, 0], [1, 0x44, 0, 5, 0x45]]).2.2.msgs = [[0x41, 0x42, 0x43], [0x44]] := by decide
example : (rOut (feedAll (rfc4571M fun _ => false) (fun s => s.buf.length) {} {}
    [[0, 3, 0x41, 0x42], [0x43, 0, 0, 0], [1, 0x44, 0, 5, 0x45]])).leftover = [0, 5, 0x45] := by decide

/-- **C17, ICE-TCP send framing** (a5ed163): for a message made of ANY number of
    buffers and every packet start `offset`, the scatter entries handed to the TCP socket behind the
    2-byte length are exactly the next `n` bytes of the message (the same bytes as `Nice.Copy.gather`,
    the kernel proved in C02), no entry reads outside its buffer, and the offset advances by `n`. -/
theorem C17_rfc4571_send_frames (bufs : List Bytes) (offset n : Nat) (h : offset + n ≤ bufs.flatten.length) :
    (gather (bufs.drop (findStart bufs 0 offset 0).1) (findStart bufs 0 offset 0).2.1 n).1.flatten =
      Nice.Copy.gather bufs offset n ∧
    (gather (bufs.drop (findStart bufs 0 offset 0).1) (findStart bufs 0 offset 0).2.1 n).1.flatten =
      (bufs.flatten.drop offset).take n ∧
    (gather (bufs.drop (findStart bufs 0 offset 0).1) (findStart bufs 0 offset 0).2.1 n).2.1 = false ∧
    (gather (bufs.drop (findStart bufs 0 offset 0).1) (findStart bufs 0 offset 0).2.1 n).2.2 = n := by
  obtain ⟨i, hi, hd, hb⟩ := Rfc4571.findStart_spec bufs 0 0 offset (Nat.zero_le _)
  rw [hi, Nat.zero_add]
  obtain ⟨g1, g2, g3⟩ := Rfc4571.gather_spec (bufs.drop i) (findStart bufs 0 offset 0).2.1 n hb
  have hl := congrArg List.length hd
  simp only [List.length_drop, Nat.sub_zero] at hl
  rw [hd] at g1
  exact ⟨g1.trans (Nice.Copy.gather_take_drop bufs offset n).symm, g1, g2, by rw [g3]; omega⟩

/-- a packet starting 256 bytes before the end of the first of two buffers (0xF900 + 0x1000 bytes,
    corpus/C17/rfc4571_send_overread.ops) takes those 256 bytes and continues in the second -/
example (b0 b1 : Bytes) (h0 : b0.length = 0xF900) (h1 : b1.length = 0x1000) :
    (gather ([b0, b1].drop (findStart [b0, b1] 0 0xF800 0).1) (findStart [b0, b1] 0 0xF800 0).2.1 0x1100).2.1 = false :=
  (C17_rfc4571_send_frames [b0, b1] 0xF800 0x1100 (by simp [h0, h1])).2.2.1

example : (Rfc4571.send {} [[1, 2, 3], [4]]).1.down = [[0, 4, 1, 2, 3, 4]] := by decide

end Rfc4571

section SendQueue
open Nice.SendQueue

/-- a partial write stops the flush -/
example : (flush 3 [[1, 2, 3], [4]] { acc := [2] } []).2.1 = [[1, 2]] ∧ (flush 3 [[1, 2, 3], [4]] { acc := [2] } []).2.2.1 = [[3], [4]] := by
  decide

/-- **C17 (output side)** (2caa19c): for every sequence of sends of messages made of
    ANY number of buffers, kernel acceptance patterns (0..len bytes per write, EAGAIN) and writable
    events, the bytes accepted by the descriptor followed by the queued backlog are exactly the
    concatenation of the frames the socket accepted, in order — so what is on the wire is always a
    prefix of that concatenation: a frame is never interleaved with another, reordered, duplicated
    or altered, and it is either queued whole behind the accepted bytes or not at all. -/
theorem C17_frames_contiguous (ops : List Op) (r : Run) (h : Inv r) : Inv (runOps r ops) := by
  induction ops generalizing r with
  | nil => exact h
  | cons op ops ih =>
    apply ih
    unfold Inv at h ⊢
    cases op with
    | send d | sendr d =>
      simp only [stepOp, List.append_assoc, SendQueue.send_inv, SendQueue.sendReliable_inv]
      split <;> simp [← h]
    | writable =>
      simp only [stepOp, List.append_assoc, SendQueue.writable_inv]
      exact h
    | script acc => simpa [stepOp, backlog] using h

/-- non-vacuity: the invariant holds initially, and a session with partial writes really queues -/
example : Inv {} := rfl
example : (runOps {} [.script [2], .sendr [[1, 2], [3]], .sendr [[4, 5]], .script [1, 0], .writable]).wire
    = [1, 2, 3] ∧ backlog (runOps {} [.script [2], .sendr [[1, 2], [3]], .sendr [[4, 5]], .script [1, 0], .writable]).st = [4, 5] := by
  decide

/-- two 10-byte buffers of which the kernel accepts 6 bytes (corpus/C17/sendqueue_partial_multibuf.ops):
    the queued remainder is the rest of the message -/
example :
    let b0 : Bytes := [0, 1, 2, 3, 4, 5, 6, 7, 8, 9]
    let b1 : Bytes := [16, 17, 18, 19, 20, 21, 22, 23, 24, 25]
    let r := sendMessage {} { acc := [6] } [b0, b1] true
    r.1 = 20 ∧ r.2.1.flatten ++ backlog r.2.2.1 = b0 ++ b1 := by
  decide
end SendQueue

end Nice.Props.C17
