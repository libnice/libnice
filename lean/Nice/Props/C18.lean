/-
  C18 — SDP and address text forms round-trip and reject garbage safely.

  Private / link-local classification, about the kernels *translated from agent/address.c* (Nice.Gen), for ALL 2^32
  IPv4 values and all 16-byte IPv6 values; NiceAddress equality laws (Nice.Addr); SDP candidate-line and credential
  round trips and what the parser can return (Nice.Sdp).
-/
import Nice.Model.Addr
import Nice.Model.Sdp
import Nice.Proofs.Bits
namespace Nice.Props.C18
open Nice.Gen Nice.Addr Nice.Sdp

/-- `(x & m) == c` for a high mask `m` = "x lies in the aligned block starting at c" -/
theorem prefix_eq_iff (x m c : UInt32) (k : Nat) (hk : k ≤ 32) (hm : m.toNat = (2 ^ (32 - k) - 1) * 2 ^ k) :
    ((x &&& m) == c) = true ↔ x.toNat / 2 ^ k * 2 ^ k = c.toNat := by
  rw [beq_iff_eq, ← UInt32.toNat_inj, UInt32.toNat_and, hm, and_field, Nat.mod_eq_of_lt]
  apply Nat.div_lt_of_lt_mul
  rw [← Nat.pow_add, Nat.add_sub_cancel' hk]
  exact x.toNat_lt

theorem ite_ne_zero (b : Bool) : (if b then (1 : Int32) else 0) ≠ 0 ↔ b = true := by
  cases b <;> decide

/-- **C18_private_iff_ranges.**  For every one of the 2^32 values of `s_addr`:
    `ipv4_address_is_private` holds exactly when the host-order address lies in
    10/8 ∪ 172.16/12 ∪ 192.168/16 ∪ 169.254/16 ∪ 127/8 (numeric intervals). -/
theorem C18_private_iff_ranges (a : UInt32) :
    ipv4_address_is_private a ≠ 0 ↔
      (167772160 ≤ (bswap32 a).toNat ∧ (bswap32 a).toNat ≤ 184549375) ∨
      (2886729728 ≤ (bswap32 a).toNat ∧ (bswap32 a).toNat ≤ 2887778303) ∨
      (3232235520 ≤ (bswap32 a).toNat ∧ (bswap32 a).toNat ≤ 3232301055) ∨
      (2851995648 ≤ (bswap32 a).toNat ∧ (bswap32 a).toNat ≤ 2852061183) ∨
      (2130706432 ≤ (bswap32 a).toNat ∧ (bswap32 a).toNat ≤ 2147483647) := by
  unfold ipv4_address_is_private
  generalize bswap32 a = x
  show (if _ then (1 : Int32) else 0) ≠ 0 ↔ _
  rw [ite_ne_zero]
  simp only [Bool.or_eq_true, or_assoc]
  rw [prefix_eq_iff x _ _ 24 (by decide) rfl, prefix_eq_iff x _ _ 20 (by decide) rfl,
    prefix_eq_iff x _ _ 16 (by decide) rfl, prefix_eq_iff x _ _ 16 (by decide) rfl,
    prefix_eq_iff x _ _ 24 (by decide) rfl]
  simp only [UInt32.toNat_ofNat, Nat.reducePow, Nat.reduceMod]
  -- block by block: on the whole iff omega splits on every combination
  refine or_congr ?_ (or_congr ?_ (or_congr ?_ (or_congr ?_ ?_))) <;> omega

/-- **C18_linklocal_iff.**  `ipv4_address_is_linklocal` ⇔ 169.254/16, for all 2^32 values. -/
theorem C18_linklocal_iff (a : UInt32) :
    ipv4_address_is_linklocal a ≠ 0 ↔
      2851995648 ≤ (bswap32 a).toNat ∧ (bswap32 a).toNat ≤ 2852061183 := by
  unfold ipv4_address_is_linklocal
  generalize bswap32 a = x
  show (if _ then (1 : Int32) else 0) ≠ 0 ↔ _
  rw [ite_ne_zero, prefix_eq_iff x _ _ 16 (by decide) rfl]
  show _ = (2851995648 : Nat) ↔ _
  omega

example : ipv4_address_is_private 0x0100000a ≠ 0 := by decide          -- 10.0.0.1 (little-endian s_addr)
example : ¬ ipv4_address_is_private 0x08080808 ≠ 0 := by decide        -- 8.8.8.8
example : ipv4_address_is_linklocal 0x0101fea9 ≠ 0 := by decide        -- 169.254.1.1

-- bounds are written as literals: omega and the unifier run out of recursion depth on `2 ^ 32`
theorem or_bytes (a b c d : Nat) (hb : b < 2 ^ 8) (hc : c < 2 ^ 8) (hd : d < 2 ^ 8) :
    a <<< 24 ||| b <<< 16 ||| c <<< 8 ||| d = a * 16777216 + b * 65536 + c * 256 + d :=
  calc a <<< 24 ||| b <<< 16 ||| c <<< 8 ||| d
      = ((a <<< 8 ||| b) <<< 8 ||| c) <<< 8 ||| d := by
        simp only [Nat.shiftLeft_or_distrib, ← Nat.shiftLeft_add]
    _ = ((a <<< 8 + b) <<< 8 + c) <<< 8 + d := by
        rw [← Nat.shiftLeft_add_eq_or_of_lt hb, ← Nat.shiftLeft_add_eq_or_of_lt hc,
          ← Nat.shiftLeft_add_eq_or_of_lt hd]
    _ = a * 16777216 + b * 65536 + c * 256 + d := by simp only [Nat.shiftLeft_eq]; omega

theorem bswap32_bytes (x : UInt32) (b0 b1 b2 b3 : Nat) (h0 : b0 < 256) (h1 : b1 < 256) (h2 : b2 < 256) (h3 : b3 < 256)
    (hx : x.toNat = b0 + b1 * 256 + b2 * 65536 + b3 * 16777216) :
    (bswap32 x).toNat = b0 * 16777216 + b1 * 65536 + b2 * 256 + b3 := by
  unfold bswap32
  simp only [UInt32.toNat_or, UInt32.toNat_shiftLeft, UInt32.toNat_shiftRight, UInt32.toNat_and, UInt32.toNat_ofNat,
    Nat.reducePow, Nat.reduceMod]
  rw [and_field _ 0 8, and_field _ 8 8, and_field _ 8 8, and_field _ 0 8, ← or_bytes b0 b1 b2 b3 h1 h2 h3]
  generalize x.toNat = n at *
  -- not `congr 1`: it tries `rfl` on the shifted terms and runs into the heartbeat limit
  refine congr (congrArg _ (congr (congrArg _ (congr (congrArg _ ?_) ?_)) ?_)) ?_ <;> omega

/-- **C18_bswap32_dotted.**  `ntohl` of the little-endian `s_addr` of `b0.b1.b2.b3` is
    `b0·2^24 + b1·2^16 + b2·2^8 + b3`. -/
theorem C18_bswap32_dotted (b0 b1 b2 b3 : Nat) (h0 : b0 < 256) (h1 : b1 < 256) (h2 : b2 < 256) (h3 : b3 < 256) :
    (bswap32 (UInt32.ofNat (b0 + b1 * 2 ^ 8 + b2 * 2 ^ 16 + b3 * 2 ^ 24))).toNat
      = b0 * 2 ^ 24 + b1 * 2 ^ 16 + b2 * 2 ^ 8 + b3 := by
  refine bswap32_bytes _ b0 b1 b2 b3 h0 h1 h2 h3 ?_
  rw [UInt32.toNat_ofNat']
  show (b0 + b1 * 256 + b2 * 65536 + b3 * 16777216) % 4294967296 = _
  omega

example : (bswap32 (UInt32.ofNat (10 + 1 * 2 ^ 8 + 2 * 2 ^ 16 + 3 * 2 ^ 24))).toNat = 10 * 2 ^ 24 + 1 * 2 ^ 16 + 2 * 2 ^ 8 + 3 := by
  decide

/-! The C code promotes each byte to `int` first: below 2^31 `Int32.ofNat` is injective and commutes with `&`. -/
theorem i32_ofNat_inj (n c : Nat) (hn : n < 2 ^ 31) (hc : c < 2 ^ 31) : Int32.ofNat n = Int32.ofNat c ↔ n = c := by
  rw [← Int32.toBitVec_inj, ← BitVec.toNat_inj, Int32.toBitVec_ofNat', Int32.toBitVec_ofNat', BitVec.toNat_ofNat,
    BitVec.toNat_ofNat, Nat.mod_eq_of_lt (by omega), Nat.mod_eq_of_lt (by omega)]

theorem i32_ofNat_and (n m : Nat) : Int32.ofNat n &&& Int32.ofNat m = Int32.ofNat (n &&& m) := by
  rw [← Int32.toBitVec_inj]
  simp only [Int32.toBitVec_and, Int32.toBitVec_ofNat', ← BitVec.ofNat_and]

/-- **C18_linklocal6_iff.**  `ipv6_address_is_linklocal` ⇔ fe80::/10, for all 16-byte inputs. -/
theorem C18_linklocal6_iff (p : Nat → UInt8) :
    ipv6_address_is_linklocal p ≠ 0 ↔ (p 0).toNat = 254 ∧ 128 ≤ (p 1).toNat ∧ (p 1).toNat ≤ 191 := by
  have h0 := (p 0).toNat_lt
  have h1 := (p 1).toNat_lt
  unfold ipv6_address_is_linklocal
  show (if (Int32.ofNat _ == Int32.ofNat 254 && Int32.ofNat _ &&& Int32.ofNat 192 == Int32.ofNat 128) = true
    then (1 : Int32) else 0) ≠ 0 ↔ _
  rw [ite_ne_zero, Bool.and_eq_true, beq_iff_eq, beq_iff_eq, i32_ofNat_and, i32_ofNat_inj _ _ (by omega) (by decide),
    i32_ofNat_inj _ _ (Nat.lt_of_le_of_lt Nat.and_le_right (by decide)) (by decide), and_field _ 6 2]
  omega

theorem go_zero (p : Nat → UInt8) (lit : List UInt8) (i : Nat) :
    memcmp_lit.go p i lit = 0 ↔ ∀ j, j < lit.length → p (i + j) = lit.getD j 0 := by
  induction lit generalizing i with
  | nil => simp [memcmp_lit.go]
  | cons b bs ih =>
    unfold memcmp_lit.go
    rw [List.length_cons, Nat.forall_lt_succ_left]
    by_cases hb : p i = b
    · simp [hb, ih, Nat.add_assoc, Nat.add_comm 1]
    · have : (if p i < b then (-1 : Int32) else 1) ≠ 0 := by split <;> decide
      simp [hb, this]

theorem memcmp_loopback (p : Nat → UInt8) :
    memcmp_lit p [0, 0, 0, 0, 0, 0, 0, 0, 0, 0, 0, 0, 0, 0, 0, 1] = 0 ↔
      ∀ j, j < 16 → p j = if j = 15 then 1 else 0 := by
  have lit : ∀ j, j < 16 →
      ([0, 0, 0, 0, 0, 0, 0, 0, 0, 0, 0, 0, 0, 0, 0, 1] : List UInt8).getD j 0 = if j = 15 then 1 else 0 := by decide
  unfold memcmp_lit
  rw [go_zero]
  simp only [Nat.zero_add, List.length_cons, List.length_nil]
  exact forall_congr' fun j => imp_congr_right fun hj => by rw [lit j hj]

/-- **C18_private6_iff.**  `ipv6_address_is_private` ⇔ fe80::/10 ∨ fd00::/8 ∨ fc00::/7 ∨ ::1 on the
    16 bytes (RFC 4291 link-local, RFC 4193 unique-local, loopback). -/
theorem C18_private6_iff (p : Nat → UInt8) :
    ipv6_address_is_private p ≠ 0 ↔
      ((p 0).toNat = 254 ∧ 128 ≤ (p 1).toNat ∧ (p 1).toNat ≤ 191) ∨      -- fe80::/10
      (p 0).toNat = 253 ∨                                                  -- fd00::/8
      ((p 0).toNat = 252 ∨ (p 0).toNat = 253) ∨                            -- fc00::/7
      (∀ j, j < 16 → p j = if j = 15 then 1 else 0) := by                  -- ::1
  have h0 := (p 0).toNat_lt
  have h1 := (p 1).toNat_lt
  unfold ipv6_address_is_private
  show (if (Int32.ofNat _ == Int32.ofNat 254 && Int32.ofNat _ &&& Int32.ofNat 192 == Int32.ofNat 128 ||
    Int32.ofNat _ == Int32.ofNat 253 || Int32.ofNat _ &&& Int32.ofNat 254 == Int32.ofNat 252 || _) = true
    then (1 : Int32) else 0) ≠ 0 ↔ _
  rw [ite_ne_zero]
  simp only [Bool.or_eq_true, Bool.and_eq_true, beq_iff_eq, i32_ofNat_and]
  rw [or_assoc, or_assoc, memcmp_loopback, i32_ofNat_inj _ 254 (by omega) (by decide),
    i32_ofNat_inj _ 253 (by omega) (by decide),
    i32_ofNat_inj _ 128 (Nat.lt_of_le_of_lt Nat.and_le_right (by decide)) (by decide),
    i32_ofNat_inj _ 252 (Nat.lt_of_le_of_lt Nat.and_le_right (by decide)) (by decide), and_field _ 6 2, and_field _ 1 7]
  refine or_congr ?_ (or_congr Iff.rfl (or_congr ?_ Iff.rfl)) <;> omega

example : ipv6_address_is_private (fun i => if i = 15 then 1 else 0) ≠ 0 := by decide                  -- ::1
example : ipv6_address_is_private (fun i => if i = 0 then 0xfe else if i = 1 then 0x80 else 7) ≠ 0 := by decide
example : ¬ ipv6_address_is_private (fun i => if i = 0 then 0x20 else 1) ≠ 0 := by decide             -- 2001:…
example : ipv6_address_is_linklocal (fun i => if i = 0 then 0xfe else if i = 1 then 0xbf else 0) ≠ 0 := by decide

theorem sAddr_toNat (b0 b1 b2 b3 : UInt8) :
    (sAddr [b0, b1, b2, b3]).toNat = b3.toNat * 16777216 + b2.toNat * 65536 + b1.toNat * 256 + b0.toNat := by
  have h1 := b1.toNat_lt
  have h2 := b2.toNat_lt
  have h3 := b3.toNat_lt
  show (b0.toUInt32 ||| b1.toUInt32 <<< 8 ||| b2.toUInt32 <<< 16 ||| b3.toUInt32 <<< 24).toNat = _
  simp only [UInt32.toNat_or, UInt32.toNat_shiftLeft, UInt8.toNat_toUInt32, UInt32.toNat_ofNat, Nat.reducePow,
    Nat.reduceMod]
  rw [(by omega : b1.toNat <<< 8 % 4294967296 = b1.toNat <<< 8),
    (by omega : b2.toNat <<< 16 % 4294967296 = b2.toNat <<< 16),
    (by omega : b3.toNat <<< 24 % 4294967296 = b3.toNat <<< 24)]
  -- commuted by hand: `ac_rfl` times out on these terms
  rw [Nat.or_comm _ (b3.toNat <<< 24), Nat.or_comm _ (b2.toNat <<< 16), Nat.or_comm b0.toNat, ← Nat.or_assoc,
    ← Nat.or_assoc, or_bytes _ _ _ _ h2 h1 b0.toNat_lt]

theorem bswap_sAddr (b0 b1 b2 b3 : UInt8) :
    (bswap32 (sAddr [b0, b1, b2, b3])).toNat = b0.toNat * 16777216 + b1.toNat * 65536 + b2.toNat * 256 + b3.toNat := by
  refine bswap32_bytes _ _ _ _ _ b0.toNat_lt b1.toNat_lt b2.toNat_lt b3.toNat_lt ?_
  rw [sAddr_toNat]; omega

/-- **C18_private_dotted.**  The classification restated on the dotted quad `b0.b1.b2.b3` of a
    model address (through `sAddr`, `ntohl` and the translated kernel). -/
theorem C18_private_dotted (b0 b1 b2 b3 : UInt8) (port : UInt16) :
    isPrivate { family := .v4, bytes := [b0, b1, b2, b3], port := port } = true ↔
      b0.toNat = 10 ∨ (b0.toNat = 172 ∧ 16 ≤ b1.toNat ∧ b1.toNat ≤ 31) ∨ (b0.toNat = 192 ∧ b1.toNat = 168) ∨
      (b0.toNat = 169 ∧ b1.toNat = 254) ∨ b0.toNat = 127 := by
  have h0 := b0.toNat_lt
  have h1 := b1.toNat_lt
  have h2 := b2.toNat_lt
  have h3 := b3.toNat_lt
  show (ipv4_address_is_private (sAddr [b0, b1, b2, b3]) != 0) = true ↔ _
  rw [bne_iff_ne, C18_private_iff_ranges, bswap_sAddr]
  refine or_congr ?_ (or_congr ?_ (or_congr ?_ (or_congr ?_ ?_))) <;> omega

theorem C18_linklocal_dotted (b0 b1 b2 b3 : UInt8) (port : UInt16) :
    isLinklocal { family := .v4, bytes := [b0, b1, b2, b3], port := port } = true ↔
      b0.toNat = 169 ∧ b1.toNat = 254 := by
  have h0 := b0.toNat_lt
  have h1 := b1.toNat_lt
  have h2 := b2.toNat_lt
  have h3 := b3.toNat_lt
  show (ipv4_address_is_linklocal (sAddr [b0, b1, b2, b3]) != 0) = true ↔ _
  rw [bne_iff_ne, C18_linklocal_iff, bswap_sAddr]
  omega

example : isPrivate { family := .v4, bytes := [192, 168, 1, 7] } = true := by decide
example : isPrivate { family := .v4, bytes := [172, 32, 0, 1] } = false := by decide

theorem equalNoPort_iff (a b : Address) : equalNoPort a b = true ↔
    isValid a = true ∧ a.family = b.family ∧ a.bytes = b.bytes ∧
      (a.family = .v6 → a.scope = 0 ∨ b.scope = 0 ∨ a.scope = b.scope) := by
  unfold equalNoPort isValid
  cases hf : a.family <;> cases hg : b.family <;> simp [or_assoc]

theorem equal_iff (a b : Address) : equal a b = true ↔ equalNoPort a b = true ∧ a.port = b.port := by
  unfold equal equalNoPort
  cases hf : a.family <;> cases hg : b.family <;> simp [and_assoc, and_comm]

/-- **C18_equal_refl.**  Reflexive on every valid address (for AF_UNSPEC the C code returns FALSE
    through `g_return_val_if_reached`). -/
theorem C18_equal_refl (a : Address) (h : isValid a = true) : equal a a = true := by
  simp [equal_iff, equalNoPort_iff, h]

theorem C18_equal_symm (a b : Address) : equal a b = equal b a := by
  suffices ∀ a b, equal a b = true → equal b a = true from Bool.eq_iff_iff.mpr ⟨this a b, this b a⟩
  intro a b
  rw [equal_iff, equal_iff, equalNoPort_iff, equalNoPort_iff]
  rintro ⟨⟨hv, hf, hb, hs⟩, hp⟩
  refine ⟨⟨by unfold isValid at *; rwa [← hf], hf.symm, hb.symm, fun h => ?_⟩, hp.symm⟩
  rcases hs (hf ▸ h) with h | h | h
  · exact Or.inr (Or.inl h)
  · exact Or.inl h
  · exact Or.inr (Or.inr h.symm)

/-- **C18_equal_trans_partial.**  Transitive whenever the two outer scope ids are equal or the
    middle one is not the wildcard — in particular when all scope ids are equal or all zero.
    (Not transitive in general: `C18_equal_not_trans`.) -/
theorem C18_equal_trans_partial (a b c : Address)
    (hs : a.scope = c.scope ∨ b.scope ≠ 0 ∨ a.scope = 0 ∨ c.scope = 0)
    (hab : equal a b = true) (hbc : equal b c = true) : equal a c = true := by
  rw [equal_iff, equalNoPort_iff] at *
  obtain ⟨⟨hv, hf, hb, s1⟩, hp⟩ := hab
  obtain ⟨⟨_, hf', hb', s2⟩, hp'⟩ := hbc
  refine ⟨⟨hv, hf.trans hf', hb.trans hb', fun h6 => ?_⟩, hp.trans hp'⟩
  have s1 := s1 h6
  have s2 := s2 (hf ▸ h6)
  rcases hs with h | h | h | h
  · exact Or.inr (Or.inr h)
  · rcases s1 with h' | h' | h'
    · exact Or.inl h'
    · exact absurd h' h
    · rcases s2 with h'' | h'' | h''
      · exact absurd h'' h
      · exact Or.inr (Or.inl h'')
      · exact Or.inr (Or.inr (h'.trans h''))
  · exact Or.inl h
  · exact Or.inr (Or.inl h)

/-- the three addresses of the recorded finding: fe80::1 port 5 with scope ids 1, 0, 2 -/
def ll1 (scope : UInt32) : Address :=
  { family := .v6, bytes := [0xfe, 0x80, 0, 0, 0, 0, 0, 0, 0, 0, 0, 0, 0, 0, 0, 1], port := 5, scope := scope }

/-- **C18_equal_not_trans.**  `nice_address_equal` is NOT transitive: scope id 0 is a wildcard, so
    scope 1 = scope 0 and scope 0 = scope 2 but scope 1 ≠ scope 2 (recorded as a known finding;
    reproduced on the real code by corpus/C18/scope_not_transitive.ops). -/
theorem C18_equal_not_trans :
    equal (ll1 1) (ll1 0) = true ∧ equal (ll1 0) (ll1 2) = true ∧ equal (ll1 1) (ll1 2) = false := by
  decide

example : ∃ a b c : Address, equal a b = true ∧ equal b c = true ∧ (a.scope = c.scope ∨ b.scope ≠ 0 ∨ a.scope = 0 ∨ c.scope = 0) :=
  ⟨ll1 1, ll1 1, ll1 1, by decide, by decide, Or.inl rfl⟩

theorem C18_equal_noport_of_equal (a b : Address) (h : equal a b = true) : equalNoPort a b = true :=
  ((equal_iff a b).mp h).1

/-- **C18_equal_text_consistent.**  Addresses that are equal (ports aside) have the same text form,
    and valid addresses of one family with the same bytes and compatible scope ids are equal:
    the text depends on family and address bytes only. -/
theorem C18_equal_text_consistent (a b : Address) (h : equalNoPort a b = true) :
    Addr.toString a = Addr.toString b := by
  obtain ⟨_, hf, hb, _⟩ := (equalNoPort_iff a b).mp h
  unfold Addr.toString
  rw [hf, hb]

example : equalNoPort (ll1 1) (ll1 0) = true := by decide
example : isValid (ll1 0) = true := by decide

/-- the converse on the address itself: valid addresses of one family with the same bytes and
    compatible scope ids are equal up to the port (that equal *texts* give equal bytes is the libc
    hypothesis `LibcOK.roundtrip`, validated by the `addr rt` stream) -/
theorem C18_equal_of_same_bytes (a b : Address) (hv : isValid a = true) (hf : a.family = b.family)
    (hb : a.bytes = b.bytes) (hs : a.scope = 0 ∨ b.scope = 0 ∨ a.scope = b.scope) : equalNoPort a b = true :=
  (equalNoPort_iff a b).mpr ⟨hv, hf, hb, fun _ => hs⟩

/-- value of a digit string read left to right from an initial value -/
def valFrom (v : Nat) (ds : Text) : Nat := ds.foldl (fun a d => a * 10 + (d.toNat - 48)) v

def isDig (d : UInt8) : Prop := 48 ≤ d.toNat ∧ d.toNat ≤ 57

theorem digit_toNat (n : Nat) (h : n < 10) : (digit n).toNat = 48 + n := by
  show (UInt8.ofNat (48 + n)).toNat = _
  rw [UInt8.toNat_ofNat']; omega

theorem isDig_digit (n : Nat) (h : n < 10) : isDig (digit n) := by
  unfold isDig; rw [digit_toNat n h]; omega

theorem valFrom_digit (v n : Nat) (h : n < 10) (r : Text) : valFrom v (digit n :: r) = valFrom (v * 10 + n) r := by
  show valFrom (v * 10 + ((digit n).toNat - 48)) r = _
  rw [digit_toNat n h, Nat.add_sub_cancel_left]

/-- over the accumulator: reading the result from 0 is reading `acc` from `n` (no power of ten) -/
theorem decAux_spec : ∀ (f n : Nat) (acc : Text), n < 10 ^ f → 0 < f →
    decAux f n acc ≠ [] ∧ (∀ c ∈ decAux f n acc, isDig c ∨ c ∈ acc) ∧ valFrom 0 (decAux f n acc) = valFrom n acc
  | f + 1, n, acc, h, _ => by
    unfold decAux
    by_cases hn : n < 10
    · simp only [hn, if_true, List.mem_cons, ne_eq, reduceCtorEq, not_false_eq_true, true_and]
      exact ⟨fun c hc => hc.imp (fun (e : c = _) => e ▸ isDig_digit n hn) id,
        by rw [valFrom_digit 0 n hn, Nat.zero_mul, Nat.zero_add]⟩
    · have hm : n % 10 < 10 := Nat.mod_lt _ (by decide)
      have h10 : n / 10 < 10 ^ f := by rw [Nat.pow_succ] at h; omega
      obtain ⟨h1, h2, h3⟩ := decAux_spec f (n / 10) (digit (n % 10) :: acc) h10
        (Nat.pos_of_ne_zero (by rintro rfl; omega))
      simp only [hn, if_false]
      refine ⟨h1, fun c hc => ?_, by rw [h3, valFrom_digit _ _ hm, Nat.div_add_mod']⟩
      rcases h2 c hc with h | h
      · exact Or.inl h
      · exact (List.mem_cons.mp h).imp (fun (e : c = _) => e ▸ isDig_digit _ hm) id

theorem decDigits_spec (n : Nat) :
    decDigits n ≠ [] ∧ (∀ c ∈ decDigits n, isDig c) ∧ valFrom 0 (decDigits n) = n := by
  have hlt : n < 10 ^ (n + 1) :=
    Nat.lt_trans (Nat.lt_pow_self (by decide)) (Nat.pow_lt_pow_right (by decide) (Nat.lt_succ_self n))
  have ⟨h1, h2, h3⟩ := decAux_spec (n + 1) n [] hlt (Nat.succ_pos n)
  exact ⟨h1, fun c hc => (h2 c hc).resolve_right (by simp), h3⟩

theorem valFrom_ge (ds : Text) : ∀ v, v ≤ valFrom v ds := by
  induction ds with
  | nil => exact fun v => Nat.le_refl v
  | cons d ds ih => exact fun v => Nat.le_trans (by omega) (ih (v * 10 + (d.toNat - 48)))

theorem ullDigits_spec (ds : Text) : ∀ (v : Nat) (o : Bool), (∀ d ∈ ds, isDig d) →
    valFrom v ds ≤ 18446744073709551615 → ullDigits ds v o = (valFrom v ds, o) := by
  induction ds with
  | nil => intro v o _ _; rfl
  | cons d ds ih =>
    intro v o hd hv
    have hdd : 48 ≤ d.toNat ∧ d.toNat ≤ 57 := hd d (by simp)
    have hge := valFrom_ge ds (v * 10 + (d.toNat - 48))
    have hv' : valFrom (v * 10 + (d.toNat - 48)) ds ≤ 18446744073709551615 := hv
    have h1 : (48 ≤ d && d ≤ 57) = true := by simpa [UInt8.le_iff_toNat_le] using hdd
    have h2 : ¬ (v > 1844674407370955161 ∨ v = 1844674407370955161 ∧ d.toNat - 48 > 5) := by omega
    unfold ullDigits
    simp only [h1, h2, if_true, if_false, Bool.or_eq_true, Bool.and_eq_true, decide_eq_true_eq, beq_iff_eq]
    exact ih _ o (fun x hx => hd x (by simp [hx])) hv'

theorem strtoull_decDigits (n : Nat) (h : n ≤ 18446744073709551615) :
    strtoull (decDigits n) = UInt64.ofNat n ∧ strtoull (45 :: decDigits n) = 0 - UInt64.ofNat n := by
  obtain ⟨hne, hdig, hval⟩ := decDigits_spec n
  have hu := ullDigits_spec _ 0 false hdig (by omega)
  rw [hval] at hu
  constructor
  · match hds : decDigits n, hne with
    | d :: r, _ =>
      have hd : 48 ≤ d.toNat ∧ d.toNat ≤ 57 := hdig d (by simp [hds])
      have hne : ∀ k : UInt8, k.toNat < 48 → d ≠ k := fun k hk e => by subst e; omega
      have hsp : isSpace d = false := by
        simp [isSpace, hne 32 (by decide), hne 12 (by decide), hne 10 (by decide), hne 13 (by decide),
          hne 9 (by decide), hne 11 (by decide)]
      rw [hds] at hu
      unfold strtoull
      rw [List.dropWhile_cons]
      simp only [hsp, Bool.false_eq_true, if_false]
      split
      · rename_i heq; simp at heq; exact absurd heq.1 (hne 45 (by decide))
      · rename_i heq; simp at heq; exact absurd heq.1 (hne 43 (by decide))
      · rw [hu]; simp
  · unfold strtoull
    rw [List.dropWhile_cons]
    simp [show isSpace 45 = false by decide, hu]

/-- `%d` of a `guint32`: from 2^31 on a minus sign and the distance to 2^32 -/
theorem fmtU32_eq (x : UInt32) :
    fmtU32 x = if x.toNat < 2147483648 then decDigits x.toNat else 45 :: decDigits (4294967296 - x.toNat) := by
  have hx : x.toNat < 4294967296 := x.toNat_lt
  have hi : x.toInt32.toInt = if 2 * x.toNat < 4294967296 then (x.toNat : Int) else (x.toNat : Int) - 4294967296 :=
    BitVec.toInt_eq_toNat_cond _
  unfold fmtU32 fmtD
  by_cases h : x.toNat < 2147483648
  · rw [hi, if_pos (by omega : 2 * x.toNat < 4294967296), if_neg (by omega), if_pos h, Int.toNat_natCast]
  · rw [hi, if_neg (by omega : ¬ 2 * x.toNat < 4294967296), if_pos (by omega), if_neg h]
    congr 2; omega

/-- **C18_strtoull_fmtD.**  `%d` of a `guint32` (printed as the `int` with the same bits, negative
    from 2^31 on) read back by `g_ascii_strtoull` and cast to `guint32` is the identity; the same for
    a non-negative value below 65536 and the `guint16` cast (ports). -/
theorem C18_strtoull_fmtD :
    (∀ x : UInt32, (strtoull (fmtU32 x)).toUInt32 = x) ∧
    (∀ n : Nat, n < 65536 → (strtoull (fmtD (n : Int))).toUInt16 = UInt16.ofNat n) := by
  constructor
  · intro x
    have hx : x.toNat < 4294967296 := x.toNat_lt
    rw [fmtU32_eq]
    split
    · rw [(strtoull_decDigits _ (by omega)).1, UInt64.toUInt32_ofNat', UInt32.ofNat_toNat]
    · -- 0 - (2^32 - x) in 64 bits is 0 - (0 - x) in 32
      rw [(strtoull_decDigits _ (by omega)).2, UInt64.toUInt32_sub, UInt64.toUInt32_ofNat', UInt32.ofNat_sub (by omega),
        UInt32.ofNat_toNat]
      show 0 - (0 - x) = x
      rw [UInt32.zero_sub, UInt32.zero_sub, UInt32.neg_neg]
  · intro n hn
    unfold fmtD
    rw [if_neg (by omega), Int.toNat_natCast, (strtoull_decDigits _ (by omega)).1, UInt64.toUInt16_ofNat']

example : strtoull (fmtU32 4294967295) = 18446744073709551615 := by decide   -- "-1"
example : fmtU32 2147483648 = [45, 50, 49, 52, 55, 52, 56, 51, 54, 52, 56] := by decide   -- "-2147483648"

/-- `%d` output consists of digits and possibly a leading '-' -/
theorem fmtD_avoid (d : UInt8) (hd : d.toNat < 45) (x : Int) : d ∉ fmtD x := by
  have hdd : ∀ n, d ∉ decDigits n := fun n hm => by
    have := (decDigits_spec n).2.1 d hm
    unfold isDig at this
    omega
  unfold fmtD
  split
  · exact fun hm => (List.mem_cons.mp hm).elim (fun h => by subst h; revert hd; decide) (hdd _)
  · exact hdd _

theorem fmtD_nospace (x : Int) : (32 : UInt8) ∉ fmtD x := fmtD_avoid 32 (by decide) x

theorem splitOn_nosep (d : UInt8) (t : Text) (h : d ∉ t) : splitOn d t = [t] := by
  induction t with
  | nil => rfl
  | cons c r ih =>
    rw [List.mem_cons, not_or] at h
    rw [splitOn, if_neg (by simpa using Ne.symm h.1), ih h.2]

theorem splitOn_append (d : UInt8) (t rest : Text) (h : d ∉ t) :
    splitOn d (t ++ d :: rest) = t :: splitOn d rest := by
  induction t with
  | nil => simp [splitOn]
  | cons c r ih =>
    rw [List.mem_cons, not_or] at h
    rw [List.cons_append, splitOn, if_neg (by simpa using Ne.symm h.1), ih h.2]

theorem splitOn_joinSp : ∀ (ts : List Text), ts ≠ [] → (∀ t ∈ ts, (32 : UInt8) ∉ t) →
    splitOn 32 (joinSp ts) = ts
  | [], h, _ => absurd rfl h
  | [t], _, h => by simpa [joinSp] using splitOn_nosep 32 t (h t (by simp))
  | t :: t' :: ts, _, h => by
    show splitOn 32 (t ++ 32 :: joinSp (t' :: ts)) = _
    rw [splitOn_append 32 t _ (h t (by simp)), splitOn_joinSp (t' :: ts) (by simp) (fun x hx => h x (by simp [hx]))]

theorem strsplit_of_ne_nil (d : UInt8) (s : Text) (h : s ≠ []) : strsplit d s = splitOn d s := by
  cases s with
  | nil => exact absurd rfl h
  | cons _ _ => rfl

/-- **C18_split_join.**  `g_strsplit (s, " ", 0)` undoes the single-space join of tokens that contain
    no space (the joined string must be non-empty: `g_strsplit ("")` is the empty vector). -/
theorem C18_split_join (ts : List Text) (hne : joinSp ts ≠ []) (h : ∀ t ∈ ts, (32 : UInt8) ∉ t) :
    strsplit 32 (joinSp ts) = ts := by
  rw [strsplit_of_ne_nil 32 _ hne]
  exact splitOn_joinSp ts (fun e => hne (e ▸ rfl)) h

example : strsplit 32 (joinSp [[97], [], [98, 99]]) = [[97], [], [98, 99]] := by decide

theorem keyLoop_genTokens (ty raddr rport tcptype : Text) (hasBase isTcp : Bool) :
    keyLoop ([sTyp, ty] ++ (if hasBase then [sRaddr, raddr, sRport, rport] else []) ++
        (if isTcp then [sTcptype, tcptype] else [])) {} =
      some { type := some ty, raddr := if hasBase then some raddr else none,
             rport := if hasBase then (strtoull rport).toUInt16 else 0,
             tcptype := if isTcp then some tcptype else none } := by
  -- the four keys are distinct words
  cases hasBase <;> cases isTcp <;> simp +decide [keyLoop]

theorem lookupType_typeToSdp : ∀ t, t < 4 → lookupType (typeToSdp t) = some t := by decide

theorem lookupTransport_transportToSdp : ∀ t, t < 4 →
    lookupTransport (transportToSdp t)
      (if (t != NICE_CANDIDATE_TRANSPORT_UDP) = true then some (tcptypeToSdp t) else none) = (some t, false) := by
  decide

/-- what survives the trip through text: the port is printed separately, the scope id not at all -/
def img (a : Address) : Address := { a with port := 0, scope := 0 }

/-- the port as written: an unset port becomes the discard port 9 -/
def portVal (a : Address) : UInt16 := if a.port == 0 then 9 else a.port

/-- the candidate the property expects back -/
def canon (c : Cand) (sid : UInt32) : Cand :=
  { type := c.type, transport := c.transport,
    addr := setPort (img c.addr) (portVal c.addr).toUInt32,
    base := if isValid c.base && !equal c.addr c.base then setPort (img c.base) (portVal c.base).toUInt32 else {},
    priority := c.priority, streamId := sid, componentId := c.componentId, foundation := c.foundation }

structure WellFormed (c : Cand) : Prop where
  type_lt : c.type < 4
  transport_lt : c.transport < 4
  addr_valid : isValid c.addr = true
  comp : 1 ≤ c.componentId.toNat ∧ c.componentId.toNat ≤ 256
  flen : c.foundation.length ≤ 32
  fnosp : (32 : UInt8) ∉ c.foundation

/-- the assumption on libc (validated by the `addr rt` stream on every run) -/
structure LibcOK (L : Libc) : Prop where
  roundtrip : ∀ a, isValid a = true → L.pton (L.ntop a) = some (img a)
  nospace : ∀ a, isValid a = true → (32 : UInt8) ∉ L.ntop a

theorem getPort_toUInt16 (a : Address) (h : isValid a = true) : (getPort a).toUInt16 = a.port := by
  unfold getPort
  cases hf : a.family <;> simp_all [isValid]

theorem sdpPort_rt (a : Address) (h : isValid a = true) : (strtoull (sdpPort a)).toUInt16 = portVal a := by
  unfold sdpPort portVal
  simp only [getPort_toUInt16 a h]
  split
  · exact C18_strtoull_fmtD.2 9 (by decide)
  · rw [C18_strtoull_fmtD.2 _ a.port.toNat_lt]
    exact UInt16.ofNat_toNat

theorem portVal_ne_zero (a : Address) : portVal a ≠ 0 := by
  unfold portVal
  split <;> simp_all

/-- (`…X`: the model's variants that also count GLib criticals; the round trips are proved about them, none raised.)
    First the key/value tail, then the positional fields, then the base address, kept or not. -/
theorem C18_tokensX_roundtrip (L : Libc) (hL : LibcOK L) (c : Cand) (hc : WellFormed c) (sid : UInt32) :
    parseTokensX L sid (genTokens L c) = { cand := some (canon c sid), crit := 0 } := by
  unfold parseTokensX genTokens
  simp only [List.cons_append, List.nil_append]
  have hk := keyLoop_genTokens (typeToSdp c.type) (L.ntop c.base) (sdpPort c.base) (tcptypeToSdp c.transport)
    (isValid c.base && !equal c.addr c.base) (c.transport != NICE_CANDIDATE_TRANSPORT_UDP)
  simp only [List.cons_append, List.nil_append] at hk
  rw [hk]
  simp only [lookupType_typeToSdp c.type hc.type_lt, lookupTransport_transportToSdp c.transport hc.transport_lt,
    hL.roundtrip c.addr hc.addr_valid, sdpPort_rt c.addr hc.addr_valid, C18_strtoull_fmtD.1]
  have hf : strlcpy (List.take NICE_CANDIDATE_MAX_FOUNDATION c.foundation) NICE_CANDIDATE_MAX_FOUNDATION = c.foundation := by
    unfold strlcpy
    show List.take 32 (List.take 33 c.foundation) = c.foundation
    rw [List.take_take]
    exact List.take_of_length_le (by have := hc.flen; omega)
  by_cases hb : (isValid c.base && !equal c.addr c.base) = true
  · have hv : isValid c.base = true := by
      rw [Bool.and_eq_true] at hb; exact hb.1
    simp only [hb, if_true, hL.roundtrip c.base hv, sdpPort_rt c.base hv, hf]
    simp [canon, hb, portVal_ne_zero]
  · have hb' : (isValid c.base && !equal c.addr c.base) = false := by simpa using hb
    simp only [hb', Bool.false_eq_true, if_false, hf]
    simp [canon, hb']

theorem C18_tokens_roundtrip (L : Libc) (hL : LibcOK L) (c : Cand) (hc : WellFormed c) (sid : UInt32) :
    parseTokens L sid (genTokens L c) = some (canon c sid) := by
  unfold parseTokens; rw [C18_tokensX_roundtrip L hL c hc sid]

/-- every fixed word the generator can print -/
def sdpLiterals : List Text :=
  [sTyp, sRaddr, sRport, sTcptype, sUDP, sTCP, sUnk, sHost, sSrflx, sPrflx, sRelay, sActive, sPassive, sSo, []]

theorem typeToSdp_lit (t : Nat) : typeToSdp t ∈ sdpLiterals := by
  unfold typeToSdp; repeat' split
  all_goals decide

theorem transportToSdp_lit (t : Nat) : transportToSdp t ∈ sdpLiterals := by
  unfold transportToSdp; repeat' split
  all_goals decide

theorem tcptypeToSdp_lit (t : Nat) : tcptypeToSdp t ∈ sdpLiterals := by
  unfold tcptypeToSdp; repeat' split
  all_goals decide

/-- used for ' ' and for '\n' -/
theorem genTokens_avoid (d : UInt8) (hd : d.toNat < 45) (hlit : ∀ t ∈ sdpLiterals, d ∉ t) (L : Libc)
    (hn : ∀ a, isValid a = true → d ∉ L.ntop a) (c : Cand) (hv : isValid c.addr = true) (hf : d ∉ c.foundation) :
    ∀ t ∈ genTokens L c, d ∉ t := by
  have hnum := fmtD_avoid d hd
  unfold genTokens
  refine List.forall_mem_append.mpr ⟨List.forall_mem_append.mpr ⟨?_, ?_⟩, ?_⟩
  · simp only [List.forall_mem_cons]
    exact ⟨fun hm => hf (List.mem_of_mem_take hm), hnum _, hlit _ (transportToSdp_lit _), hnum _, hn _ hv, hnum _,
      hlit _ (by decide), hlit _ (typeToSdp_lit _), nofun⟩
  · split
    · rename_i hb
      simp only [List.forall_mem_cons]
      exact ⟨hlit _ (by decide), hn _ (Bool.and_eq_true _ _ ▸ hb).1, hlit _ (by decide), hnum _, nofun⟩
    · nofun
  · split
    · simp only [List.forall_mem_cons]
      exact ⟨hlit _ (by decide), hlit _ (tcptypeToSdp_lit _), nofun⟩
    · nofun

theorem prefix_self (p x : Text) : hasPrefix (p ++ x) p = true := by
  unfold hasPrefix; rw [List.isPrefixOf_iff_prefix]; exact List.prefix_append _ _

theorem C18_sdpX_roundtrip (L : Libc) (hL : LibcOK L) (c : Cand) (hc : WellFormed c) (sid : UInt32)
    (hsid : sid ≠ 0) : parseCandidateX L sid (genCandidate L c) = { cand := some (canon c sid), crit := 0 } := by
  unfold parseCandidateX genCandidate
  have h0 : (sid == 0) = false := by simpa using hsid
  have hp := prefix_self pCandidate (joinSp (genTokens L c))
  have hd : List.drop 12 (pCandidate ++ joinSp (genTokens L c)) = joinSp (genTokens L c) :=
    List.drop_left' (by decide)
  have hne : joinSp (genTokens L c) ≠ [] := by simp [genTokens, joinSp]
  simp only [h0, hp, hd, Bool.false_eq_true, if_false, Bool.not_true]
  rw [C18_split_join _ hne (genTokens_avoid 32 (by decide) (by decide) L hL.nospace c hc.addr_valid hc.fnosp)]
  exact C18_tokensX_roundtrip L hL c hc sid

/-- **C18_sdp_roundtrip.**  For every well-formed candidate `c` — any type, transport, priority
    (including ≥ 2^31, printed negative), component, port, IPv4/IPv6 address, with or without a base
    address, foundation of at most 32 bytes without a space — parsing the line generated for `c` gives
    back `canon c`: the same fields, port 0 written and read as 9, the base address kept exactly when it
    is valid and differs from the address.  Hypothesis on libc (`LibcOK`): `from_string (to_string a)`
    is `a` without port/scope and the text has no space. -/
theorem C18_sdp_roundtrip (L : Libc) (hL : LibcOK L) (c : Cand) (hc : WellFormed c) (sid : UInt32)
    (hsid : sid ≠ 0) : parseCandidate L sid (genCandidate L c) = some (canon c sid) := by
  unfold parseCandidate; rw [C18_sdpX_roundtrip L hL c hc sid hsid]

def encB (b : UInt8) : List UInt8 := [b / 16 + 65, b % 16 + 65]
def enc (bs : List UInt8) : Text := bs.flatMap encB
def dec : Text → List UInt8
  | x :: y :: r => ((x - 65) * 16 + (y - 65)) :: dec r
  | _ => []

/-- a toy libc (family digit followed by two letters per byte) that satisfies `LibcOK` and avoids
    '\n': the hypotheses of the round-trip theorems are satisfiable -/
def toyLibc : Libc :=
  { ntop := fun a => (if a.family == .v4 then 52 else 54) :: enc a.bytes,
    pton := fun t => match t with
      | f :: r => some { family := if f == 52 then .v4 else .v6, bytes := dec r, port := 0, scope := 0 }
      | [] => none }

theorem encB_ok (b : UInt8) :
    (b / 16 + 65 - 65) * 16 + (b % 16 + 65 - 65) = b ∧ 64 < (b / 16 + 65).toNat ∧ 64 < (b % 16 + 65).toNat := by
  have hb := b.toNat_lt
  refine ⟨?_, ?_, ?_⟩
  · rw [UInt8.add_sub_cancel, UInt8.add_sub_cancel]
    apply UInt8.toNat_inj.mp
    simp only [UInt8.toNat_add, UInt8.toNat_mul, UInt8.toNat_div, UInt8.toNat_mod, UInt8.toNat_ofNat, Nat.reducePow,
      Nat.reduceMod]
    omega
  · simp only [UInt8.toNat_add, UInt8.toNat_div, UInt8.toNat_ofNat, Nat.reducePow, Nat.reduceMod]
    omega
  · simp only [UInt8.toNat_add, UInt8.toNat_mod, UInt8.toNat_ofNat, Nat.reducePow, Nat.reduceMod]
    omega

theorem dec_enc (bs : List UInt8) : dec (enc bs) = bs := by
  induction bs with
  | nil => rfl
  | cons b r ih =>
    show dec ((b / 16 + 65) :: (b % 16 + 65) :: enc r) = _
    unfold dec
    rw [(encB_ok b).1, ih]

theorem enc_big (bs : List UInt8) : ∀ x ∈ enc bs, 64 < x.toNat := by
  induction bs with
  | nil => intro x hx; simp [enc] at hx
  | cons b r ih =>
    intro x hx
    have hx' : x = b / 16 + 65 ∨ x = b % 16 + 65 ∨ x ∈ enc r := by
      simpa [enc, encB] using hx
    have h := encB_ok b
    rcases hx' with h1 | h1 | h1
    · rw [h1]; exact h.2.1
    · rw [h1]; exact h.2.2
    · exact ih x h1

theorem toyLibc_ok : LibcOK toyLibc ∧ ∀ a, isValid a = true → (10 : UInt8) ∉ toyLibc.ntop a := by
  have havoid : ∀ (d : UInt8) (a : Address), d.toNat < 50 → d ∉ toyLibc.ntop a := by
    intro d a hd hm
    have hm' : d = (if a.family == .v4 then 52 else 54) ∨ d ∈ enc a.bytes := by simpa [toyLibc] using hm
    rcases hm' with h | h
    · rw [h] at hd; split at hd <;> simp at hd
    · have := enc_big _ d h; omega
  refine ⟨⟨?_, fun a _ => havoid 32 a (by decide)⟩, fun a _ => havoid 10 a (by decide)⟩
  intro a hv
  show some _ = some _
  congr 1
  unfold img
  cases a with
  | mk family bytes port scope =>
    cases family <;> simp_all [isValid, dec_enc]

example : ∃ L, LibcOK L := ⟨toyLibc, toyLibc_ok.1⟩

/-- non-vacuity on the REAL model of libc: a TCP-passive server-reflexive IPv6 candidate with
    priority ≥ 2^31, port 0 and an IPv4 base round-trips through the executable model -/
def exCand : Cand :=
  { type := 1, transport := 2, priority := 4294967295, componentId := 256, foundation := [49, 50, 51],
    addr := { family := .v6, bytes := [0x20, 1, 0x0d, 0xb8, 0, 0, 0, 0, 0, 1, 0, 0, 0, 0, 0, 1], port := 0, scope := 7 },
    base := { family := .v4, bytes := [10, 0, 0, 1], port := 5000 } }

example : parseCandidate Libc.model 1 (genCandidate Libc.model exCand) = some (canon exCand 1) := by decide
example : WellFormed exCand := ⟨by decide, by decide, by decide, by decide, by decide, by decide⟩
example : Libc.model.pton (Libc.model.ntop exCand.addr) = some (img exCand.addr) ∧
    Libc.model.pton (Libc.model.ntop exCand.base) = some (img exCand.base) := by decide

/-- **C18_parse_total.**  For EVERY token list the parser (a total function: no fault value, no
    out-of-range token access — the `tokens[i+1] == NULL` rule is the `[_]` case of `keyLoop`) returns
    nothing, or a candidate whose address is the result of a successful `from_string` on one of the
    tokens, with the port set afterwards. -/
theorem C18_parse_total (L : Libc) (sid : UInt32) (toks : List Text) :
    parseTokens L sid toks = none ∨
      ∃ c t a p, parseTokens L sid toks = some c ∧ t ∈ toks ∧ L.pton t = some a ∧ c.addr = setPort a p := by
  unfold parseTokens
  -- the generated `parseTokensX.fun_cases` is the complete inversion of the parser
  fun_cases parseTokensX L sid toks
  all_goals first
    | (left; rfl)
    | (right; refine ⟨_, _, _, _, rfl, ?_, ‹_›, rfl⟩; simp)

/-- the same for every byte string given to `nice_agent_parse_remote_candidate_sdp` -/
theorem C18_parse_total_string (L : Libc) (sid : UInt32) (s : Text) :
    parseCandidate L sid s = none ∨
      ∃ c t a p, parseCandidate L sid s = some c ∧ L.pton t = some a ∧ c.addr = setPort a p := by
  unfold parseCandidate parseCandidateX
  split
  · left; rfl
  · split
    · left; rfl
    · rcases C18_parse_total L sid (strsplit 32 (List.drop 12 s)) with h | ⟨c, t, a, p, h, _, h2, h3⟩
      · left; exact h
      · right; exact ⟨c, t, a, p, h, h2, h3⟩

theorem setPort_valid (a : Address) (p : UInt32) : isValid (setPort a p) = isValid a := by
  unfold setPort isValid
  cases hf : a.family <;> simp [hf]

theorem fromString_valid (s : Text) (a : Address) (h : fromString s = some a) : isValid a = true := by
  unfold fromString at h
  repeat' split at h
  all_goals first
    | (injection h with h; subst h; rfl)
    | (exact absurd h (by simp))

/-- **C18_parse_valid_address.**  Whatever the text, a candidate that comes out of the parser has a
    valid (IPv4 or IPv6) address — given that `from_string` only succeeds with valid addresses, which
    holds for the modelled libc. -/
theorem C18_parse_valid_address (L : Libc) (hv : ∀ t a, L.pton t = some a → isValid a = true)
    (sid : UInt32) (s : Text) (c : Cand) (h : parseCandidate L sid s = some c) : isValid c.addr = true := by
  rcases C18_parse_total_string L sid s with h0 | ⟨c', t, a, p, h1, h2, h3⟩
  · rw [h0] at h; exact absurd h (by simp)
  · rw [h1] at h; injection h with h; subst h
    rw [h3, setPort_valid]; exact hv t a h2

theorem C18_parse_valid_address_model (sid : UInt32) (s : Text) (c : Cand)
    (h : parseCandidate Libc.model sid s = some c) : isValid c.addr = true :=
  C18_parse_valid_address Libc.model (fun t a h => fromString_valid t a h) sid s c h

example : parseCandidate Libc.model 1 [97, 61, 99, 97, 110, 100, 105, 100, 97, 116, 101, 58, 32, 32, 32] = none := by decide

theorem splitOn_lines (g : Cand → Text) (ls : List Cand) (h : ∀ l ∈ ls, (10 : UInt8) ∉ g l) :
    splitOn 10 (ls.flatMap fun l => g l ++ [10]) = ls.map g ++ [[]] := by
  induction ls with
  | nil => rfl
  | cons l r ih =>
    show splitOn 10 ((g l ++ [10]) ++ r.flatMap fun l => g l ++ [10]) = _
    rw [List.append_assoc, List.singleton_append, splitOn_append 10 _ _ (h l (by simp)),
      ih (fun x hx => h x (by simp [hx]))]
    rfl

theorem notPrefix_cand_ufrag (x : Text) : hasPrefix (pCandidate ++ x) pUfrag = false := by
  simp [hasPrefix, pCandidate, pUfrag, List.isPrefixOf]
theorem notPrefix_cand_pwd (x : Text) : hasPrefix (pCandidate ++ x) pPwd = false := by
  simp [hasPrefix, pCandidate, pPwd, List.isPrefixOf]
theorem notPrefix_pwd_ufrag (x : Text) : hasPrefix (pPwd ++ x) pUfrag = false := by
  simp [hasPrefix, pPwd, pUfrag, List.isPrefixOf]

theorem parseStreamLines_cands (L : Libc) (hL : LibcOK L) (sid : UInt32) (hsid : sid ≠ 0) (ls : List Cand)
    (hwf : ∀ l ∈ ls, WellFormed l) (r : SResult) :
    parseStreamLines L sid (ls.map (genCandidate L) ++ [[]]) r =
      { r with cands := (ls.map (canon · sid)).reverse ++ r.cands } := by
  induction ls generalizing r with
  | nil =>
    show parseStreamLines L sid [[]] r = _
    simp [parseStreamLines, hasPrefix, pUfrag, pPwd, pCandidate]
  | cons l rest ih =>
    show parseStreamLines L sid (genCandidate L l :: (rest.map (genCandidate L) ++ [[]])) r = _
    rw [parseStreamLines]
    have e : genCandidate L l = pCandidate ++ joinSp (genTokens L l) := rfl
    rw [e, notPrefix_cand_ufrag, notPrefix_cand_pwd, prefix_self, ← e,
      C18_sdpX_roundtrip L hL l (hwf l (by simp)) sid hsid]
    simp only [Bool.false_eq_true, if_false, if_true, Nat.add_zero]
    rw [ih (fun x hx => hwf x (by simp [hx]))]
    simp

theorem joinSp_avoid (d : UInt8) (hd : d ≠ 32) : ∀ (ts : List Text), (∀ t ∈ ts, d ∉ t) → d ∉ joinSp ts
  | [], _ => by simp [joinSp]
  | [t], h => by simpa [joinSp] using h t (by simp)
  | t :: t' :: ts, h => by
    show d ∉ t ++ 32 :: joinSp (t' :: ts)
    intro hm
    rcases List.mem_append.mp hm with h1 | h1
    · exact h t (by simp) h1
    · rcases List.mem_cons.mp h1 with h2 | h2
      · exact hd h2
      · exact joinSp_avoid d hd (t' :: ts) (fun x hx => h x (by simp [hx])) h2

theorem genCandidate_nonl (L : Libc) (hnl : ∀ a, isValid a = true → (10 : UInt8) ∉ L.ntop a) (c : Cand)
    (hv : isValid c.addr = true) (hf : (10 : UInt8) ∉ c.foundation) : (10 : UInt8) ∉ genCandidate L c := by
  unfold genCandidate
  intro hm
  rcases List.mem_append.mp hm with h | h
  · revert h; decide
  · exact joinSp_avoid 10 (by decide) _ (genTokens_avoid 10 (by decide) (by decide) L hnl c hv hf) h

/-- all local candidates of a stream, in the order `_generate_stream_sdp` prints them -/
def allLocals (s : Stream) : List Cand := s.comps.flatMap (·.locals)

/-- the last newline `_generate_stream_sdp` prints leaves an empty last piece -/
theorem strsplit_genStream (L : Libc) (hnl : ∀ a, isValid a = true → (10 : UInt8) ∉ L.ntop a) (A : Agent) (s : Stream)
    (hfr : A.forceRelay = false) (hu : (10 : UInt8) ∉ s.localUfrag) (hp : (10 : UInt8) ∉ s.localPwd)
    (hwf : ∀ l ∈ allLocals s, isValid l.addr = true ∧ (10 : UInt8) ∉ l.foundation) :
    strsplit 10 (genStream L A s false) =
      (pUfrag ++ s.localUfrag) :: (pPwd ++ s.localPwd) :: ((allLocals s).map (genCandidate L) ++ [[]]) := by
  have hgen : genStream L A s false =
      (pUfrag ++ s.localUfrag) ++ 10 :: ((pPwd ++ s.localPwd) ++ 10 ::
        ((allLocals s).flatMap fun l => genCandidate L l ++ [10])) := by
    unfold genStream allLocals
    simp only [hfr, Bool.false_and, Bool.false_eq_true, if_false, List.nil_append, List.append_assoc,
      List.flatMap_assoc, List.cons_append]
  have n1 : (10 : UInt8) ∉ pUfrag ++ s.localUfrag := fun hm =>
    (List.mem_append.mp hm).elim (by decide : (10 : UInt8) ∉ pUfrag) hu
  have n2 : (10 : UInt8) ∉ pPwd ++ s.localPwd := fun hm =>
    (List.mem_append.mp hm).elim (by decide : (10 : UInt8) ∉ pPwd) hp
  rw [hgen, strsplit_of_ne_nil 10 _ (by simp), splitOn_append 10 _ _ n1, splitOn_append 10 _ _ n2,
    splitOn_lines (genCandidate L) (allLocals s) (fun l hl => genCandidate_nonl L hnl l (hwf l hl).1 (hwf l hl).2)]

theorem parseStreamLines_stream (L : Libc) (hL : LibcOK L) (sid : UInt32) (hsid : sid ≠ 0) (u w : Text) (ls : List Cand)
    (hwf : ∀ l ∈ ls, WellFormed l) :
    parseStreamLines L sid ((pUfrag ++ u) :: (pPwd ++ w) :: (ls.map (genCandidate L) ++ [[]])) {} =
      { ufrag := some u, pwd := some w, cands := (ls.map (canon · sid)).reverse, crit := 0 } := by
  have d1 : List.drop 12 (pUfrag ++ u) = u := List.drop_left' (by decide)
  have d2 : List.drop 10 (pPwd ++ w) = w := List.drop_left' (by decide)
  rw [parseStreamLines, prefix_self]
  simp only [if_true]
  rw [parseStreamLines, notPrefix_pwd_ufrag, prefix_self]
  simp only [Bool.false_eq_true, if_false, if_true]
  rw [parseStreamLines_cands L hL sid hsid ls hwf]
  simp [d1, d2]

/-- **C18_stream_roundtrip_partial.**  The SDP generated for one stream
    (`nice_agent_generate_local_stream_sdp`, ICE lines only) and parsed by
    `nice_agent_parse_remote_stream_sdp` on another agent reproduces the credentials exactly and every
    local candidate in canonical form (list reversed: `g_slist_prepend`), with no GLib critical —
    for credentials and foundations without a newline and well-formed candidates.
    PARTIAL: the multi-stream path `nice_agent_generate_local_sdp` → `nice_agent_parse_remote_sdp`
    (the `m=`/`c=` lines, positional stream matching for 1..4 streams, `priv_add_remote_candidate`
    bookkeeping that drops prflx / priority-0 candidates and updates duplicates) and `force-relay`
    are modelled and tied by the differential run only, not proved here. -/
theorem C18_stream_roundtrip_partial (L : Libc) (hL : LibcOK L)
    (hnl : ∀ a, isValid a = true → (10 : UInt8) ∉ L.ntop a)
    (A B : Agent) (sid : UInt32) (hsid : sid ≠ 0) (s : Stream) (hs : findStream A sid = some s)
    (hB : (findStream B sid).isSome = true) (hfr : A.forceRelay = false)
    (hu : (10 : UInt8) ∉ s.localUfrag) (hp : (10 : UInt8) ∉ s.localPwd)
    (hwf : ∀ l ∈ allLocals s, WellFormed l ∧ (10 : UInt8) ∉ l.foundation) :
    ∃ t r, genStreamSdp L A sid false = some t ∧ parseRemoteStreamSdp L B sid t = some r ∧
      r.ufrag = some s.localUfrag ∧ r.pwd = some s.localPwd ∧
      r.cands = ((allLocals s).map (canon · sid)).reverse ∧ r.crit = 0 := by
  have h0 : (sid == 0) = false := by simpa using hsid
  obtain ⟨sb, hsb⟩ := Option.isSome_iff_exists.mp hB
  have hsbid : sb.id = sid := by
    have := List.find?_some (by unfold findStream at hsb; exact hsb)
    simpa using this
  refine ⟨genStream L A s false, parseStreamLines L sid (strsplit 10 (genStream L A s false)) {}, ?_, ?_, ?_⟩
  · unfold genStreamSdp; simp only [h0, Bool.false_eq_true, if_false, hs]
  · unfold parseRemoteStreamSdp
    simp only [h0, Bool.false_eq_true, if_false, hsb, hsbid]
  · rw [strsplit_genStream L hnl A s hfr hu hp (fun l hl => ⟨(hwf l hl).1.addr_valid, (hwf l hl).2⟩),
      parseStreamLines_stream L hL sid hsid _ _ _ (fun l hl => (hwf l hl).1)]
    exact ⟨rfl, rfl, rfl, rfl⟩

def exStream : Stream :=
  { id := 1, localUfrag := [117, 102], localPwd := [112, 119], comps := [{ id := 1 }, { id := 2, locals := [exCand] }] }
def exAgent : Agent := { streams := [exStream] }

example : ∃ t r, genStreamSdp toyLibc exAgent 1 false = some t ∧ parseRemoteStreamSdp toyLibc exAgent 1 t = some r ∧
    r.ufrag = some [117, 102] ∧ r.pwd = some [112, 119] ∧ r.cands = [canon exCand 1] ∧ r.crit = 0 :=
  C18_stream_roundtrip_partial toyLibc toyLibc_ok.1 toyLibc_ok.2 exAgent exAgent 1 (by decide) exStream rfl rfl rfl
    (by decide) (by decide)
    (by intro l hl
        have : l = exCand := by simpa [allLocals, exStream] using hl
        subst this
        exact ⟨⟨by decide, by decide, by decide, by decide, by decide, by decide⟩, by decide⟩)

end Nice.Props.C18
