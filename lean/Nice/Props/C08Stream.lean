/-
  C08 — Pseudo-TCP delivers exactly the bytes written, in order, then end-of-stream: the END-TO-END receive-side theorems
  (N-recv) and (E) over the executable model `Nice.PTcp` with a ghost stream.

  Ghost stream.  `W : List UInt8` is what the peer's application wrote before closing; the peer's connect message
  occupies sequence numbers `[0, D)` (ISN is 0 in this code), `W[k]` has sequence number `D + k`, the FIN sits at
  `D + |W|`.  `SegOk W D seg p` (in `Nice.Proofs.PTcpStream`) says an incoming segment is one such a peer can emit (payload
  = slice of `W` at its sequence number; control segment = the connect message; FIN at the end of the stream) — the
  sender-side fact behind it is `C08_sender_payload_from_ring`.  `PktOk W D p` is `SegOk` of the packet as `parse`
  decodes it, `OpOk W D op` asks it of every `notify_packet` operation and nothing of any other operation.

  Histories.  `runG s got ops` is `Nice.Proofs.PTcp.run` (every public entry point, any arguments, any clock values,
  any `WritePacket` results) that also accumulates the bytes `recv` returned; `runG_erase` says it is `run` on the socket.
  Segments may arrive in any order, any number of times, or never: a history is just a list of operations.

  Invariant.  `RInv W D n s`: (`n` = number of bytes returned so far) the committed ring bytes are `W[n ..]`, `rcv_nxt`
  is the sequence number after them (+1 once the FIN is consumed), every out-of-order range recorded in `rlist` is
  stored in the ring at its own position and equals `W` there, and in a FIN-received state all of `W` is committed.

  What is proved: from ANY socket state satisfying `RInv` (in particular the state right after the peer's connect message
  has been consumed, see the examples), for EVERY history of `OpOk` operations, with `D + |W| + 2 < 2^31`
  (32-bit sequence numbers cannot tell arbitrarily delayed duplicates apart beyond that).
  Send side (N-send): `runS` accumulates the bytes `send` reported as accepted; `C08_sender_segments_from_stream`.
  Handshake and histories from `Sock.init`: `C08_handshake_establishes_invariant`, and
  `C08_recv_stream_prefix_from_init_partial` under the execution hypothesis `GoodRun` (see there for why it is needed).
-/
import Nice.Props.C08
import Nice.Proofs.PTcpStreamHs
import Nice.Proofs.PTcpStreamSndOps
-- checks/C08.py audits three theorems of C10Kernels through this module
import Nice.Props.C10Kernels
namespace Nice.Props.C08
open Nice.PTcp Nice.Gen Nice.Proofs.PTcp Nice.Proofs.PTcpStream

/-- **C08_recv_stream_prefix_partial (N-recv).**  For every history of operations in which every delivered packet is an
    honest segment of the stream `W` (any order, duplicates, losses, any `recv` sizes, clocks, window / buffer / MTU
    operations, shutdown, close), starting from a socket that satisfies the stream invariant with `n0` bytes already
    read: everything `recv` has returned is a prefix of `W` (exactly `W.take n`), the read count only grows, and the
    invariant still holds — so every committed byte at stream position `k` is `W[k]`.
    `_partial`: the start state must satisfy `RInv` (true right after the handshake: `rcv_nxt = D`, empty ring, empty
    `rlist`, see the example below); LISTEN / SYN-SENT histories before the peer's connect message is consumed are not
    covered, because there the property needs hypotheses on the environment that `SegOk` does not express (a receive
    buffer smaller than the connect message, or a connect message dropped by the `rtt < 0` test after the state has
    already moved to ESTABLISHED, leave `rcv_nxt` below `D` with out-of-order data stored at offsets relative to it). -/
theorem C08_recv_stream_prefix_partial (W : List UInt8) (D : Nat) (hB : D + W.length + 2 < 2 ^ 31)
    (s0 : Sock) (n0 : Nat) (h0 : RInv W D n0 s0) (hn0 : n0 ≤ W.length)
    (ops : List (UInt32 × Op)) (hops : ∀ x, x ∈ ops → OpOk W D x.2)
    (s : Sock) (got : List UInt8) (h : runG s0 (W.take n0) ops = .ok (s, got)) :
    got <+: W ∧ ∃ n, n0 ≤ n ∧ n ≤ W.length ∧ got = W.take n ∧ RInv W D n s := by
  obtain ⟨n, a1, a2, a3, a4⟩ := runG_rinv W D hB ops s0 n0 s got h0 hops h
  exact ⟨a3 ▸ List.take_prefix _ _, n, a1, a2, a3, a4⟩

/-- what the invariant says about the bytes still buffered: committed ring byte `i` is stream byte `n + i` -/
theorem C08_committed_bytes_are_stream (W : List UInt8) (D n : Nat) (s : Sock) (h : RInv W D n s) :
    n + s.rbuf.data ≤ W.length ∧ ∀ i, i < s.rbuf.data → byteAt s.rbuf i = W.getD (n + i) 0 :=
  ⟨h.toS.core.pre, h.toS.core.com⟩

/-- **C08_eos_after_all_data_partial (E).**  Along every such history: whenever the socket is in a FIN-received state
    (CLOSING, TIME-WAIT, CLOSE-WAIT, LAST-ACK — the states in which `recv` answers 0 instead of EWOULDBLOCK once the ring
    is empty, and `is_closed_remotely` is true), `rcv_nxt` is one past the FIN position `D + |W|` and every byte of `W`
    has been committed: what has not been returned yet is exactly what is still in the ring.
    `_partial`: CLOSED is excluded (it is also the result of every local close, RST and timeout), and the start state
    must satisfy `RInv` as in (N-recv). -/
theorem C08_eos_after_all_data_partial (W : List UInt8) (D : Nat) (hB : D + W.length + 2 < 2 ^ 31)
    (s0 : Sock) (n0 : Nat) (h0 : RInv W D n0 s0) (hn0 : n0 ≤ W.length)
    (ops : List (UInt32 × Op)) (hops : ∀ x, x ∈ ops → OpOk W D x.2)
    (s : Sock) (got : List UInt8) (h : runG s0 (W.take n0) ops = .ok (s, got)) (hF : Fin4 s.state) :
    s.rcv_nxt.toNat = D + W.length + 1 ∧ got.length + s.rbuf.data = W.length := by
  obtain ⟨n, _, a2, a3, a4⟩ := runG_rinv W D hB ops s0 n0 s got h0 hops h
  have ⟨b1, b2⟩ := fin4_all_committed W D n s a4 hF
  refine ⟨b1, ?_⟩
  rw [a3, List.length_take, Nat.min_eq_left a2]; exact b2

/-- **C08_recv_eos_means_all_read_partial (E, `recv` form).**  If, after such a history, a `recv` of a non-zero length on
    a socket in a FIN-received state whose read side has not been shut down locally returns 0 (end-of-stream), then
    everything the peer wrote has been returned: `got = W`. -/
theorem C08_recv_eos_means_all_read_partial (W : List UInt8) (D : Nat) (hB : D + W.length + 2 < 2 ^ 31)
    (s0 : Sock) (n0 : Nat) (h0 : RInv W D n0 s0) (hn0 : n0 ≤ W.length)
    (ops : List (UInt32 × Op)) (hops : ∀ x, x ∈ ops → OpOk W D x.2)
    (s : Sock) (got : List UInt8) (h : runG s0 (W.take n0) ops = .ok (s, got)) (hF : Fin4 s.state)
    (len : Nat) (clk : UInt32) (bytes : Array UInt8) (s' : Sock) (hlen : len ≠ 0) (hsr : s.shutdown_reads = false)
    (hr : recv s len clk = .ok (0, bytes, s')) : got = W := by
  obtain ⟨n, _, a2, a3, a4⟩ := runG_rinv W D hB ops s0 n0 s got h0 hops h
  have ⟨_, b2⟩ := fin4_all_committed W D n s a4 hF
  have hd := recv_zero_empty W D n s len clk bytes s' a4 hF hlen hsr hr
  rw [a3]
  have : n = W.length := by omega
  rw [this, List.take_length]

/-- **C08_handshake_establishes_invariant.**  The handshake step: on a socket in LISTEN or SYN-SENT whose receive side is
    untouched (nothing committed, nothing stored out of order, receive ring at least as large as the peer's connect
    message), every honest packet either leaves `rcv_nxt = 0` or — the peer's connect message, when its data stage is
    reached — establishes the stream invariant with nothing read yet.  (`D ≤ DEFAULT_RCV_BUF_SIZE`: `parse_options` may
    fall back to the default ring.) -/
theorem C08_handshake_establishes_invariant (W : List UInt8) (D : Nat) (hD : D ≤ DEFAULT_RCV_BUF_SIZE) (s : Sock)
    (hst : s.state = .listen ∨ s.state = .synSent) (hfok : FOk s.rbuf) (hnx : s.rcv_nxt = 0)
    (hdz : s.rbuf.data = 0) (hrl : s.rlist = []) (hcap : D ≤ s.rbuf.buf.size)
    (hfin : s.rcv_fin = 0 ∨ s.rcv_fin.toNat = D + W.length)
    (p : Array UInt8) (hp : PktOk W D p) (clk : UInt32) (r : Bool × Sock) (h : notifyPacket s p clk = .ok r) :
    r.2.rcv_nxt = 0 ∨ RInv W D 0 r.2 :=
  -- the inductive form: the start may also be CLOSED, and an untouched receive side stays untouched as a whole
  (notifyPacket_pre W D hD s p hp clk r
    ⟨hfok, hnx, hdz, hrl, hcap, hfin, hst.elim Or.inl (fun e => Or.inr (Or.inl e))⟩ h).imp (·.nx) id

/-- Boolean form of `GoodRun`, for concrete histories -/
def goodRunB (s : Sock) : List (UInt32 × Op) → Bool
  | [] => true
  | (clk, op) :: rest =>
    match stepG s clk op with
    | .ok (s', _) =>
      (s'.rcv_nxt != 0 || decide (s'.state = .listen) || decide (s'.state = .synSent) || decide (s'.state = .closed)) &&
        goodRunB s' rest
    | .error _ => true

theorem goodRunB_sound (ops : List (UInt32 × Op)) : ∀ s, goodRunB s ops = true → GoodRun s ops := by
  induction ops with
  | nil => intro _ _; trivial
  | cons x rest ih =>
    intro s h
    obtain ⟨clk, op⟩ := x
    intro s' b hs
    simp only [goodRunB, hs, Bool.and_eq_true, Bool.or_eq_true, bne_iff_ne, ne_eq, decide_eq_true_eq] at h
    refine ⟨?_, ih s' h.2⟩
    intro h0
    rcases h.1 with ((h1 | h1) | h1) | h1
    · exact absurd h0 h1
    · exact Or.inl h1
    · exact Or.inr (Or.inl h1)
    · exact Or.inr (Or.inr h1)

/-- **C08_recv_stream_prefix_from_init_partial (N-recv and E from a fresh socket).**  For every history of operations on
    `Sock.init conv` — handshake included: `connect`, clocks, `recv`, buffer / MTU settings, `shutdown`, `close`, honest
    packets in any order with duplicates and losses — everything `recv` has returned is a prefix of `W`, and in a
    FIN-received state all of `W` has been committed.
    `_partial`, with exactly these hypotheses: `D + |W| + 2 < 2^31`; `D ≤ DEFAULT_RCV_BUF_SIZE` and every `setRcvBuf`
    keeps the ring at least `D` bytes (`OpOk0`); and `GoodRun`: after every step, a socket that is no longer in
    LISTEN / SYN-SENT / CLOSED has consumed the peer's connect message (`rcv_nxt ≠ 0`).  `GoodRun` fails only when a
    connect message is dropped after the state change it causes (the `rtt < 0` test, a FIN-flagged connect message);
    without it the model does deliver wrong bytes (`Example.dropped_connect_counterexample`). -/
theorem C08_recv_stream_prefix_from_init_partial (W : List UInt8) (D : Nat) (hB : D + W.length + 2 < 2 ^ 31)
    (hD : D ≤ DEFAULT_RCV_BUF_SIZE) (conv : UInt32) (ops : List (UInt32 × Op))
    (hops : ∀ x, x ∈ ops → OpOk0 W D x.2) (hgr : GoodRun (Sock.init conv) ops)
    (s : Sock) (got : List UInt8) (h : runG (Sock.init conv) [] ops = .ok (s, got)) :
    got <+: W ∧ (Fin4 s.state → s.rcv_nxt.toNat = D + W.length + 1 ∧ got.length + s.rbuf.data = W.length) := by
  obtain ⟨n, _, a2, a3, a4⟩ := runG_preOrInv W D hB hD ops (Sock.init conv) 0 s got
    (Or.inl ⟨rfl, init_pre W D hD conv⟩) hops hgr h
  refine ⟨a3 ▸ List.take_prefix _ _, fun hF => ?_⟩
  rcases a4 with ⟨_, hm⟩ | a4
  · exfalso
    have := hm.stk
    revert hF
    rcases this with e | e | e <;> rw [e] <;> (unfold Fin4; simp)
  · have ⟨b1, b2⟩ := fin4_all_committed W D n s a4 hF
    refine ⟨b1, ?_⟩
    rw [a3, List.length_take, Nat.min_eq_left a2]; exact b2

/-- **C08_sender_segments_from_stream (N-send).**  From a fresh socket, for EVERY history of public operations (any
    incoming packets, honest or not, any clocks, any `WritePacket` results; each `send` of fewer than 2^31 bytes): there
    is one byte string `ctl` (the connect message, queued at most once and before any data) such that every packet the
    socket has written so far — all of them are in `s.out`, which is append-only — is a 24-byte header for some sequence
    number `seq` followed by a payload that is empty or equals the slice of `ctl ++ sent` at an absolute position
    `k ≡ seq (mod 2^32)`, where `sent` is exactly the concatenation of the bytes `send` reported as accepted.  In
    particular a retransmission or a re-segmentation can never carry a byte that was not written at that position. -/
theorem C08_sender_segments_from_stream (conv : UInt32) (ops : List (UInt32 × Op))
    (hops : ∀ x, x ∈ ops → OpOkS x.2) (s : Sock) (sent : List UInt8)
    (h : runS (Sock.init conv) [] ops = .ok (s, sent)) :
    ∃ ctl : List UInt8, ∀ b, Event.packet b ∈ s.out →
      ∃ (s0 : Sock) (seq : UInt32) (fl : UInt8) (wnd : UInt16) (now : UInt32) (payload : Array UInt8),
        b = buildHeader s0 seq fl wnd now ++ payload ∧ PktSlice (ctl ++ sent) seq payload := by
  obtain ⟨⟨ctl, a, f, hi⟩, _⟩ := runS_sg ops (Sock.init conv) [] s sent (init_sg conv) hops h
  exact ⟨ctl, fun b hb => hi.out _ hb⟩

/-- the same, as an invariant of the send ring: the ring holds `(ctl ++ sent)[a ..]`, `snd_una ≡ a + f` where `a` bytes
    and `f` FIN positions have been acknowledged -/
theorem C08_send_ring_is_stream_suffix (conv : UInt32) (ops : List (UInt32 × Op))
    (hops : ∀ x, x ∈ ops → OpOkS x.2) (s : Sock) (sent : List UInt8)
    (h : runS (Sock.init conv) [] ops = .ok (s, sent)) :
    ∃ (ctl : List UInt8) (a f : Nat), a + s.sbuf.data = (ctl ++ sent).length ∧
      (∀ i, i < s.sbuf.data → byteAt s.sbuf i = (ctl ++ sent).getD (a + i) 0) ∧
      s.snd_una.toNat = (a + f) % 2 ^ 32 := by
  obtain ⟨⟨ctl, a, f, hi⟩, _⟩ := runS_sg ops (Sock.init conv) [] s sent (init_sg conv) hops h
  exact ⟨ctl, a, f, hi.len, hi.com, hi.una⟩

/-- bridge to the receiver's hypothesis: while the stream is shorter than 2^32, a non-empty `PktSlice` payload at a
    sequence number at or after the connect message is exactly the `data` clause of `SegOk` with `D = |ctl|` -/
theorem C08_pktSlice_is_segOk_data (ctl W : List UInt8) (seq : UInt32) (payload : Array UInt8)
    (h : PktSlice (ctl ++ W) seq payload) (hne : payload.size ≠ 0) (hlen : (ctl ++ W).length < 2 ^ 32)
    (hseq : ctl.length ≤ seq.toNat) :
    seq.toNat + payload.size ≤ ctl.length + W.length ∧
      ∀ j, j < payload.size → payload[j]?.getD 0 = W.getD (seq.toNat - ctl.length + j) 0 := by
  rcases h with h | ⟨k, h1, h2, h3⟩
  · exact absurd h hne
  · have hk : k = seq.toNat := by
      have : k < 2 ^ 32 := by omega
      omega
    subst hk
    rw [List.length_append] at h2
    refine ⟨h2, fun j hj => ?_⟩
    rw [h3 j hj, List.getD_eq_getElem?_getD, List.getD_eq_getElem?_getD, List.getElem?_append_right (by omega)]
    congr 2; omega

/-! ### non-vacuity: the hypotheses are satisfiable, on states the model really reaches -/

namespace Example

deriving instance DecidableEq for Except

/-- a 24-byte header: conv 0, the given sequence number and flags, ack 0, window 100, timestamps 0 -/
def hdr (seq : UInt32) (flags : UInt8) : Array UInt8 :=
  push32 (push32 (push16 ((push32 (push32 (push32 #[] 0) seq) 0).push 0 |>.push flags) 100) 0) 0

/-- the peer's connect message (`CTL_CONNECT`, window-scale option, FIN-ACK option): sequence numbers `[0, 7)` -/
def ctlPkt : Array UInt8 := hdr 0 2 ++ #[0, 3, 1, 0, 254, 1, 0]
/-- the peer's data `abc` at sequence number 7 -/
def dataPkt : Array UInt8 := hdr 7 0 ++ #[97, 98, 99]
/-- the second half `c` alone (an out-of-order segment when it arrives first) -/
def tailPkt : Array UInt8 := hdr 9 0 ++ #[99]
/-- the peer's FIN at sequence number 10 -/
def finPkt : Array UInt8 := hdr 10 1

def W : List UInt8 := [97, 98, 99]

/-- a passive socket that has processed the peer's connect message -/
def s1 : Sock := match notifyPacket (Sock.init 0) ctlPkt 5 with
  | .ok (_, s) => s
  | .error _ => Sock.init 0

/-- a lossy, reordered, duplicating schedule: the tail arrives first (out of order), then the FIN (out of order), a
    premature `recv`, then the full data twice, then `recv`s -/
def ops : List (UInt32 × Op) :=
  [(6, .packet tailPkt), (7, .packet finPkt), (8, .recv 10), (9, .packet dataPkt), (10, .packet dataPkt),
   (11, .recv 2), (12, .clock), (13, .recv 10), (14, .recv 10)]

/-- the same schedule from a fresh socket: a premature `recv` and a clock tick, the peer's connect message, then `ops` -/
def ops0 : List (UInt32 × Op) := (3, .recv 10) :: (4, .clock) :: (5, .packet ctlPkt) :: ops

/-- header with an acknowledgement number -/
def hdrA (seq ack : UInt32) (flags : UInt8) : Array UInt8 :=
  push32 (push32 (push16 ((push32 (push32 (push32 #[] 0) seq) ack).push 0 |>.push flags) 100) 0) 0

/-- the peer's connect message acknowledging ours -/
def replyPkt : Array UInt8 := hdrA 0 7 2 ++ #[0, 3, 1, 0, 254, 1, 0]

/-- active open, handshake, two `send`s -/
def opsS : List (UInt32 × Op) :=
  [(5, .connect), (6, .packet replyPkt), (7, .send #[97, 98, 99]), (8, .send #[100])]

def hdrT (seq ack : UInt32) (flags : UInt8) (tsecr : UInt32) : Array UInt8 :=
  push32 (push32 (push16 ((push32 (push32 (push32 #[] 0) seq) ack).push 0 |>.push flags) 100) 0) tsecr
def badReply : Array UInt8 := hdrT 0 7 2 5000 ++ #[0, 3, 1, 0, 254, 1, 0]
def goodReply : Array UInt8 := hdrT 0 7 2 0 ++ #[0, 3, 1, 0, 254, 1, 0]
def d6 : Array UInt8 := hdrT 7 7 0 0 ++ #[97, 98, 99, 100, 101, 102]
def d3 : Array UInt8 := hdrT 7 7 0 0 ++ #[97, 98, 99]
def W6 : List UInt8 := [97, 98, 99, 100, 101, 102]

def opsBad : List (UInt32 × Op) :=
  [(1000, .connect), (1001, .packet badReply), (1002, .packet d6), (1003, .packet goodReply), (1004, .packet d3),
   (1005, .recv 100)]

/-! #### one evaluation for all of them

  A run costs the kernel little more than one pass over the 90 KiB ring `Sock.init` allocates (`Array.size` of a
  `replicate`: one step of recursion per byte, hence the recursion limit), whatever its length, so the facts about the
  concrete histories that follow are decided together: one pass. -/

set_option maxRecDepth 100000 in
theorem runs :
    (s1.state = .synReceived ∧ s1.rcv_nxt = 7 ∧ s1.rbuf.data = 0 ∧ s1.rlist = [] ∧
      s1.rbuf.buf.size = 61440 ∧ s1.rbuf.rpos = 0 ∧ s1.rcv_fin = 0) ∧
    (match runG s1 [] ops with
      | .ok (s, got) => got == W && decide (s.state = .closeWait)
      | .error _ => false) = true ∧
    (goodRunB (Sock.init 0) ops0 && match runG (Sock.init 0) [] ops0 with
      | .ok (_, got) => got == W
      | .error _ => false) = true ∧
    (match runS (Sock.init 0) [] opsS with
      | .ok (s, sent) => sent == [97, 98, 99, 100] && s.out.size == 4 && decide (s.state = .established)
      | .error _ => false) = true ∧
    ((match runG (Sock.init 0) [] opsBad with
      | .ok (_, got) => got == [97, 98, 99, 0, 0, 0]
      | .error _ => false) && !goodRunB (Sock.init 0) opsBad) = true := by decide +kernel

/-- the invariant holds on the state the model reaches from `Sock.init` by the handshake -/
theorem s1_rinv : RInv W 7 0 s1 := by
  have ⟨a1, a2, a3, a4, a5, a6, a7⟩ := runs.1
  refine rinv_after_handshake W 7 s1 ⟨⟨by rw [a3, a5]; decide, by rw [a6, a5]; decide⟩, by rw [a5]; decide⟩ a3 a4
    (by rw [a2]; rfl) (Or.inl a7) (by rw [a1]; exact ⟨by decide, by decide⟩) (by rw [a1]; unfold Fin4; simp)

theorem forall_mem_cons {α : Type} {P : α → Prop} {a : α} {l : List α} (h1 : P a) (h2 : ∀ x, x ∈ l → P x) :
    ∀ x, x ∈ a :: l → P x := fun _ hx => (List.mem_cons.mp hx).elim (· ▸ h1) (h2 _)

theorem forall_mem_nil {α : Type} {P : α → Prop} : ∀ x, x ∈ ([] : List α) → P x := fun _ h => nomatch h

theorem pktOk_of_hdr (W : List UInt8) (D : Nat) (p : Array UInt8) (seg : Segment) (h : hdrOf p = .ok seg)
    (hs : SegOk W D seg p) : PktOk W D p := by
  intro seg' h'; rw [h] at h'; cases h'; exact hs

theorem dataPkt_ok : PktOk W 7 dataPkt := by
  refine pktOk_of_hdr W 7 dataPkt
    { conv := 0, seq := 7, ack := 0, flags := 0, wnd := 100, dataOff := 24, len := 3, tsval := 0, tsecr := 0 }
    (by decide +kernel) ⟨fun h => absurd rfl h, fun _ _ => ⟨by decide, by decide, by decide⟩, fun h => absurd rfl h⟩

theorem tailPkt_ok : PktOk W 7 tailPkt := by
  refine pktOk_of_hdr W 7 tailPkt
    { conv := 0, seq := 9, ack := 0, flags := 0, wnd := 100, dataOff := 24, len := 1, tsval := 0, tsecr := 0 }
    (by decide +kernel) ⟨fun h => absurd rfl h, fun _ _ => ⟨by decide, by decide, by decide⟩, fun h => absurd rfl h⟩

theorem finPkt_ok : PktOk W 7 finPkt := by
  refine pktOk_of_hdr W 7 finPkt
    { conv := 0, seq := 10, ack := 0, flags := 1, wnd := 100, dataOff := 24, len := 0, tsval := 0, tsecr := 0 }
    (by decide +kernel) ⟨fun h => absurd rfl h, fun _ h => absurd rfl h, fun _ => by decide⟩

theorem ops_ok : ∀ x, x ∈ ops → OpOk W 7 x.2 :=
  forall_mem_cons tailPkt_ok <| forall_mem_cons finPkt_ok <| forall_mem_cons trivial <|
  forall_mem_cons dataPkt_ok <| forall_mem_cons dataPkt_ok <| forall_mem_cons trivial <|
  forall_mem_cons trivial <| forall_mem_cons trivial <| forall_mem_cons trivial <| forall_mem_nil

/-- the schedule runs without a fault in the model, returns exactly `abc`, and ends in CLOSE-WAIT (FIN received) -/
theorem ops_run : (match runG s1 [] ops with
    | .ok (s, got) => got == W && decide (s.state = .closeWait)
    | .error _ => false) = true := runs.2.1

/-- (N-recv) and (E) instantiated: all hypotheses hold for this history -/
example : ∃ s got, runG s1 (W.take 0) ops = .ok (s, got) ∧ got <+: W ∧ Fin4 s.state ∧
    got.length + s.rbuf.data = W.length := by
  have hr := ops_run
  cases h : runG s1 [] ops with
  | error e => rw [h] at hr; cases hr
  | ok v =>
    obtain ⟨s, got⟩ := v
    rw [h] at hr
    simp only [Bool.and_eq_true, decide_eq_true_eq] at hr
    have hF : Fin4 s.state := by rw [hr.2]; trivial
    have hB : 7 + W.length + 2 < 2 ^ 31 := by decide
    exact ⟨s, got, h, (C08_recv_stream_prefix_partial W 7 hB s1 0 s1_rinv (Nat.zero_le _) ops ops_ok s got h).1, hF,
      (C08_eos_after_all_data_partial W 7 hB s1 0 s1_rinv (Nat.zero_le _) ops ops_ok s got h hF).2⟩

theorem ctlPkt_ok : PktOk W 7 ctlPkt :=
  pktOk_of_hdr W 7 ctlPkt
    { conv := 0, seq := 0, ack := 0, flags := 2, wnd := 100, dataOff := 24, len := 7, tsval := 0, tsecr := 0 }
    (by decide +kernel) ⟨fun _ => Or.inr ⟨rfl, rfl⟩, fun h => absurd h (by decide), fun h => absurd rfl h⟩

theorem ops0_ok : ∀ x, x ∈ ops0 → OpOk0 W 7 x.2 :=
  forall_mem_cons trivial <| forall_mem_cons trivial <| forall_mem_cons ctlPkt_ok <|
  forall_mem_cons tailPkt_ok <| forall_mem_cons finPkt_ok <| forall_mem_cons trivial <|
  forall_mem_cons dataPkt_ok <| forall_mem_cons dataPkt_ok <| forall_mem_cons trivial <|
  forall_mem_cons trivial <| forall_mem_cons trivial <| forall_mem_cons trivial <| forall_mem_nil

/-- the handshake hypothesis holds along this history, which runs without a fault and returns `abc` -/
theorem ops0_run : (goodRunB (Sock.init 0) ops0 && match runG (Sock.init 0) [] ops0 with
    | .ok (_, got) => got == W
    | .error _ => false) = true := runs.2.2.1

/-- (N-recv from `Sock.init`) instantiated: all hypotheses hold for this history -/
example : ∃ s got, runG (Sock.init 0) [] ops0 = .ok (s, got) ∧ got = W ∧ got <+: W := by
  have hr := ops0_run
  rw [Bool.and_eq_true] at hr
  cases h : runG (Sock.init 0) [] ops0 with
  | error e => rw [h] at hr; cases hr.2
  | ok v =>
    obtain ⟨s, got⟩ := v
    rw [h] at hr
    have hg : got = W := by simpa using hr.2
    exact ⟨s, got, rfl, hg, (C08_recv_stream_prefix_from_init_partial W 7 (by decide) (by decide) 0 ops0 ops0_ok
      (goodRunB_sound ops0 _ hr.1) s got h).1⟩

theorem opsS_ok : ∀ x, x ∈ opsS → OpOkS x.2 :=
  forall_mem_cons trivial <| forall_mem_cons trivial <| forall_mem_cons (by decide : (3 : Nat) < 2 ^ 31) <|
  forall_mem_cons (by decide : (1 : Nat) < 2 ^ 31) <| forall_mem_nil

/-- the history runs in the model, `send` accepted `abcd`, and four events were logged (connect message, `opened`
    callback, two data packets) -/
theorem opsS_run : (match runS (Sock.init 0) [] opsS with
    | .ok (s, sent) => sent == [97, 98, 99, 100] && s.out.size == 4 && decide (s.state = .established)
    | .error _ => false) = true := runs.2.2.2.1

/-- (N-send) instantiated: all hypotheses hold for this history -/
example : ∃ s sent, runS (Sock.init 0) [] opsS = .ok (s, sent) ∧ sent = [97, 98, 99, 100] ∧
    ∃ ctl : List UInt8, ∀ b, Event.packet b ∈ s.out →
      ∃ (s0 : Sock) (seq : UInt32) (fl : UInt8) (wnd : UInt16) (now : UInt32) (payload : Array UInt8),
        b = buildHeader s0 seq fl wnd now ++ payload ∧ PktSlice (ctl ++ sent) seq payload := by
  have hr := opsS_run
  cases h : runS (Sock.init 0) [] opsS with
  | error e => rw [h] at hr; cases hr
  | ok v =>
    obtain ⟨s, sent⟩ := v
    rw [h] at hr
    simp only [Bool.and_eq_true, beq_iff_eq, decide_eq_true_eq] at hr
    exact ⟨s, sent, rfl, hr.1.1, C08_sender_segments_from_stream 0 opsS opsS_ok s sent h⟩

/-! #### why `GoodRun` is needed: a kernel-checked counterexample without it

  Active open; the peer's connect message arrives with a timestamp echo in the future (`rtt < 0`: `process` returns after
  the state has already moved to ESTABLISHED, `rcv_nxt` stays 0); `abcdef` at sequence number 7 is then stored out of
  order at ring offset 7; the connect message arrives again and is consumed (`rcv_nxt = 7`, the stored range now sits at
  the wrong offset); `abc` at 7 is committed and the `rlist` recovery commits three more bytes that were never written. -/

theorem opsBad_ok : ∀ x, x ∈ opsBad → OpOk0 W6 7 x.2 :=
  forall_mem_cons trivial <|
  forall_mem_cons (pktOk_of_hdr W6 7 badReply
    { conv := 0, seq := 0, ack := 7, flags := 2, wnd := 100, dataOff := 24, len := 7, tsval := 0, tsecr := 5000 }
    (by decide +kernel) ⟨fun _ => Or.inr ⟨rfl, rfl⟩, fun h => absurd h (by decide), fun h => absurd rfl h⟩) <|
  forall_mem_cons (pktOk_of_hdr W6 7 d6
    { conv := 0, seq := 7, ack := 7, flags := 0, wnd := 100, dataOff := 24, len := 6, tsval := 0, tsecr := 0 }
    (by decide +kernel) ⟨fun h => absurd rfl h, fun _ _ => ⟨by decide, by decide, by decide⟩, fun h => absurd rfl h⟩) <|
  forall_mem_cons (pktOk_of_hdr W6 7 goodReply
    { conv := 0, seq := 0, ack := 7, flags := 2, wnd := 100, dataOff := 24, len := 7, tsval := 0, tsecr := 0 }
    (by decide +kernel) ⟨fun _ => Or.inr ⟨rfl, rfl⟩, fun h => absurd h (by decide), fun h => absurd rfl h⟩) <|
  forall_mem_cons (pktOk_of_hdr W6 7 d3
    { conv := 0, seq := 7, ack := 7, flags := 0, wnd := 100, dataOff := 24, len := 3, tsval := 0, tsecr := 0 }
    (by decide +kernel) ⟨fun h => absurd rfl h, fun _ _ => ⟨by decide, by decide, by decide⟩, fun h => absurd rfl h⟩) <|
  forall_mem_cons trivial <| forall_mem_nil

/-- every packet is honest (`opsBad_ok`), yet `recv` returns `abc` followed by three zero bytes instead of a prefix of
    `abcdef`; `GoodRun` is exactly what fails (after the second operation) -/
theorem dropped_connect_counterexample :
    ((match runG (Sock.init 0) [] opsBad with
      | .ok (_, got) => got == [97, 98, 99, 0, 0, 0]
      | .error _ => false) && !goodRunB (Sock.init 0) opsBad) = true := runs.2.2.2.2

end Example

end Nice.Props.C08
