/-
  C11 / C20 — gathering completion is announced (agent_signal_gathering_done: for EVERY stream whose run is open) only when
  the discovery timer is gone, i.e. when no discovery item of any stream is scheduled or waiting for an answer: proved about
  the skeleton REGENERATED from agent/agent.c agent_gathering_done on every run (`Nice.Gen.GatheringDone.prog`).
  (Seeded C11g replaced the test by "no item is unscheduled": a host-only stream asked to gather while another stream's
  Allocate is in flight then announces completion for both.)
-/
import Nice.Gen.GatheringDone
import Nice.Proofs.FlowEval
namespace Nice.Props.C11GatheringDone
open Nice.Flow Nice.Gen.GatheringDone

def hv : Havoc := fun _ _ => [0, 1]

/-- event kind 7 = agent_signal_gathering_done -/
def policy : Policy := fun _ kind σ => kind != 7 || σ.r0 == 0

def init : List St := [{ r0 := 0 }, { r0 := 1 }]

theorem analysis_ok : (reach hv policy prog init).ok = true := by rw [reach_ok_eq]; decide +kernel

/-- **C11_completion_needs_no_pending_discovery.**  On every execution of `agent_gathering_done`, from either state of the
    discovery timer and for every value of everything the skeleton does not track, completion is announced only with
    `agent->discovery_timer_source == NULL`. -/
theorem C11_completion_needs_no_pending_discovery {σ0 : St} (h0 : σ0 ∈ init) {tr : List Ev} {σ1 : St} {o : Out}
    (hx : Exec hv prog σ0 tr σ1 o) : ∀ e ∈ tr, e.kind = 7 → e.st.r0 = 0 := by
  intro e he hk
  have hp := events_satisfy_policy analysis_ok h0 hx e he
  simpa [policy, hk] using hp

/-! non-vacuity: completion IS announced on some path -/
def never7 : Policy := fun _ kind _ => kind != 7
example : (reach hv never7 prog init).ok = false := by rw [reach_ok_eq]; decide +kernel

end Nice.Props.C11GatheringDone
