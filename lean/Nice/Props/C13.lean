/-
  C13 — consent expiry / keepalive timing kernels.  Full statements about `Nice.Consent`;
  the end-to-end claims (FAILED announced, send API error, 403 on the wire, inter-packet gaps) are
  tied by virtual-time simulation of the real agents.
-/
import Nice.Model.Consent
-- the next two for checks/C13.py, which builds this module
import Nice.Props.C13Send
import Nice.Props.C13RemoveStream
namespace Nice.Props.C13
open Nice.Consent Nice.Gen

/-- **C13_constants.**  The values the property names: 30 s consent timeout, 25 s keepalive period,
    consent checks every 4..6 s (5 s ± 20 %, at least 4 s). A changed constant breaks this. -/
theorem C13_constants :
    NICE_AGENT_TIMER_CONSENT_TIMEOUT = 30000 ∧ NICE_AGENT_TIMER_TR_DEFAULT = 25000 ∧
    NICE_AGENT_TIMER_CONSENT_DEFAULT = 5000 ∧ NICE_AGENT_TIMER_MIN_CONSENT_INTERVAL = 4000 ∧
    timeoutUs true = 30000000 := by decide

theorem tick_failed_iff (cf : Bool) (p : Pair) (now : Nat) :
    (tick cf p now).2 = .failed ↔ now > p.last + timeoutUs cf := by
  unfold tick
  split
  · rename_i h; exact ⟨fun _ => Nat.lt_sub_iff_add_lt'.mp h, fun _ => rfl⟩
  · rename_i h; exact ⟨nofun, fun hgt => absurd (Nat.lt_sub_iff_add_lt'.mpr hgt) h⟩

/-- **C13_no_early_failure.**  A tick declares the pair failed only if more than the timeout has
    elapsed since the last authenticated answer. -/
theorem C13_no_early_failure (cf : Bool) (p : Pair) (now : Nat) (h : (tick cf p now).2 = .failed) :
    now - p.last > timeoutUs cf := by
  exact Nat.lt_sub_iff_add_lt'.mpr ((tick_failed_iff cf p now).mp h)

/-- **C13_failure_when_late.**  A tick later than last + timeout declares failure and closes the
    send gate. -/
theorem C13_failure_when_late (cf : Bool) (p : Pair) (now : Nat) (h : now > p.last + timeoutUs cf) :
    (tick cf p now).2 = .failed ∧ sendDenied true (tick cf p now).1 = true := by
  refine ⟨(tick_failed_iff cf p now).mpr h, ?_⟩
  simp [tick, show now - p.last > timeoutUs cf by omega, sendDenied]

/-- a tick before the deadline re-arms the timer for no later than the deadline -/
theorem rearm_due_le (cf : Bool) (p : Pair) (now d : Nat) (hl : p.last ≤ now)
    (h : (tick cf p now).2 = .rearm d) : now + d * 1000 ≤ p.last + timeoutUs cf ∧
      p.last + timeoutUs cf < now + d * 1000 + 1000 := by
  unfold tick at h
  split at h
  · cases h
  · rename_i hle
    simp only [TickOut.rearm.injEq] at h
    subst h
    have := Nat.div_mul_le_self (timeoutUs cf - (now - p.last)) 1000
    have h2 := Nat.lt_div_mul_add (a := timeoutUs cf - (now - p.last)) (b := 1000) (by omega)
    omega

/-- a schedule of tick instants that follows the re-arm rule: each next tick fires no earlier than
    its due time and at most `δ` µs late; no answer arrives (last is constant) -/
inductive Sched (cf : Bool) (p : Pair) (δ : Nat) : List Nat → Prop
  | one (t : Nat) : Sched cf p δ [t]
  | next (t t' d : Nat) (rest : List Nat) :
      (tick cf p t).2 = .rearm d → t + d * 1000 ≤ t' → t' ≤ t + d * 1000 + δ →
      Sched cf p δ (t' :: rest) → Sched cf p δ (t :: t' :: rest)

/-- **C13_consent_expiry.**  If answers stop (last stays `p.last`), then along every timer schedule
    that starts no later than the deadline, every tick instant is ≤ last + timeout + δ; ticks at or
    before the deadline never fail and the first tick after the deadline does: failure is declared in
    the window (last + timeout, last + timeout + δ]. -/
theorem C13_consent_expiry (cf : Bool) (p : Pair) (δ : Nat) (ts : List Nat) (hs : Sched cf p δ ts) :
    ∀ t0, ts.head? = some t0 → p.last ≤ t0 → t0 ≤ p.last + timeoutUs cf + δ →
      ∀ t ∈ ts, t ≤ p.last + timeoutUs cf + δ ∧
        ((tick cf p t).2 = .failed ↔ t > p.last + timeoutUs cf) := by
  induction hs with
  | one t =>
    intro t0 h0 hl hb x hx
    simp at h0 hx; subst h0; subst hx
    exact ⟨hb, tick_failed_iff cf p x⟩
  | next t t' d rest hr h1 h2 _ ih =>
    intro t0 h0 hl hb x hx
    simp at h0; subst h0
    have hdue := rearm_due_le cf p t d hl hr
    have ht' : t' ≤ p.last + timeoutUs cf + δ := by omega
    have hl' : p.last ≤ t' := by omega
    rcases List.mem_cons.mp hx with rfl | hx
    · exact ⟨hb, tick_failed_iff cf p x⟩
    · exact ih t' rfl hl' ht' x hx

/-- **C13_answers_keep_alive.**  While authenticated answers keep arriving with gaps of at most the
    timeout, no tick ever fails (the component stays usable indefinitely). -/
theorem C13_answers_keep_alive (cf : Bool) (p : Pair) (now : Nat) (h : now ≤ p.last + timeoutUs cf) :
    (tick cf p now).2 ≠ .failed ∧ (tick cf p now).1 = p := by
  refine ⟨mt (tick_failed_iff cf p now).mp (Nat.not_lt.mpr h), ?_⟩
  simp [tick, show ¬ now - p.last > timeoutUs cf by omega]

/-- **C13_403_immediate.**  A 403 closes the send gate at once, whatever the timing state. -/
theorem C13_403_immediate (p : Pair) : sendDenied true (on403 p) = true := by
  simp [sendDenied, on403]

theorem C13_gate_iff (sel : Bool) (p : Pair) : sendDenied sel p = true ↔ (sel = true ∧ p.have_ = false) := by
  cases sel <;> cases h : p.have_ <;> simp [sendDenied, h]

/-- **C13_consent_interval.**  Consent checks are spaced 4000..6000 ms: for every RNG output
    (modifier in [0.8,1.2) ⇒ scaled in [4000,6000)). -/
theorem C13_consent_interval (scaled : Nat) (h1 : 4000 ≤ scaled) (h2 : scaled < 6000) :
    4000 ≤ consentIntervalMs scaled ∧ consentIntervalMs scaled < 6000 := by
  unfold consentIntervalMs
  have : NICE_AGENT_TIMER_MIN_CONSENT_INTERVAL = 4000 := by decide
  rw [this]; omega

example : (tick true ⟨true, 1000⟩ 30001001).2 = .failed := by decide
example : (tick true ⟨true, 1000⟩ 25001000).2 = .rearm 5000 := by decide
example : Sched true ⟨true, 0⟩ 700 [25000000, 30000000, 30000400] := by
  refine .next _ _ 5000 _ (by decide) (by decide) (by decide) (.next _ _ 0 _ ?_ (by decide) (by decide) (.one _))
  decide

end Nice.Props.C13
