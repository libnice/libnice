/-
  C04 — STUN validation accepts exactly RFC-correct integrity, fingerprint and transaction id.
  Theorems about `Nice.Stun.validate` (model of stun_agent_validate, stunagent.c) for all packets,
  all four compatibility modes, all usage-flag sets, all agent states and validaters.
  HMAC-SHA1 and MD5 are parameters (`H : Hashes`): nothing is assumed about them.
-/
import Nice.Proofs.StunSafe
import Nice.Props.C06
namespace Nice.Props.C04
open Nice.Stun Nice.Spec.Stun Nice.Gen

/-- one step of the bitwise CRC-32 (reflected polynomial 0xedb88320) -/
def crcBit (c : UInt32) : UInt32 := if c &&& 1 == 1 then (c >>> 1) ^^^ 0xedb88320 else c >>> 1

/-- table entry `i` from the polynomial definition: eight bit steps -/
def crcEntry (i : Nat) : UInt32 :=
  crcBit (crcBit (crcBit (crcBit (crcBit (crcBit (crcBit (crcBit (UInt32.ofNat i))))))))

/-- the 256-entry table regenerated from stun/stuncrc32.c equals the polynomial definition, so
    "CRC-32" in the statements below is the standard CRC-32 -/
theorem crc32_table_correct : crc32_tab = (List.range 256).map crcEntry := by decide +kernel

/-- SUCCESS or UNKNOWN_*ATTRIBUTE: the statuses that lie past every check -/
def passed (st : Status) : Prop := st = .success ∨ st = .unknownRequestAttribute ∨ st = .unknownAttribute

/-- the framing stage inverted once: it stops only with NOT_STUN, INCOMPLETE or BAD_REQUEST; with fingerprints
    in use a header comes only after `stun_agent_check_fingerprint` said TRUE -/
theorem frameCheck_inv {ag : Agent} {pkt : Bytes} {r : Sum Status Hdr} (hfc : frameCheck ag pkt = .ok r) :
    (∀ st, r = .inl st → st = .notStun ∨ st = .incomplete ∨ st = .badRequest) ∧
    (∀ h, r = .inr h → (isRfc5389ish ag.cfg && ag.cfg.has STUN_AGENT_USAGE_USE_FINGERPRINT) = true →
      checkFingerprint ag pkt = .ok true) := by
  have stop : ∀ {s : Status}, (s = .notStun ∨ s = .incomplete ∨ s = .badRequest) →
      (∀ st, (Sum.inl s : Sum Status Hdr) = .inl st → st = .notStun ∨ st = .incomplete ∨ st = .badRequest) ∧
      (∀ h, (Sum.inl s : Sum Status Hdr) = .inr h →
        (isRfc5389ish ag.cfg && ag.cfg.has STUN_AGENT_USAGE_USE_FINGERPRINT) = true →
        checkFingerprint ag pkt = .ok true) :=
    fun hs => ⟨fun _ e => by cases e; exact hs, fun _ e => by cases e⟩
  unfold frameCheck at hfc
  simp only at hfc
  -- arms: fault / invalid / incomplete / length: size, readHdr, cookie, fingerprint (fault / false / true), none
  split at hfc
  · cases hfc
  · cases hfc; exact stop (Or.inl rfl)
  · cases hfc; exact stop (Or.inr (Or.inl rfl))
  · split at hfc
    · cases hfc; exact stop (Or.inl rfl)
    · split at hfc
      · cases hfc
      · split at hfc
        · cases hfc; exact stop (Or.inr (Or.inr rfl))
        · split at hfc
          · split at hfc
            · cases hfc
            · cases hfc; exact stop (Or.inr (Or.inr rfl))
            · next hck => cases hfc; exact ⟨fun _ e => (by cases e), fun _ _ _ => hck⟩
          · next hnfp => cases hfc; exact ⟨fun _ e => (by cases e), fun _ _ hc => absurd hc hnfp⟩

/-- a validation that got past framing has its header from `frameCheck` -/
theorem validate_frame {H : Hashes} {ag ag' : Agent} {pkt : Bytes} {v : Validater} {u : Nat} {st : Status}
    {info : MsgInfo} (hval : validate H ag pkt v u = .ok (st, ag', info))
    (hst : st ≠ .notStun ∧ st ≠ .incomplete ∧ st ≠ .badRequest) :
    ∃ h, frameCheck ag pkt = .ok (.inr h) := by
  unfold validate at hval
  simp only at hval
  cases hfc : frameCheck ag pkt with
  | error e => rw [hfc] at hval; cases hval
  | ok r =>
    cases r with
    | inr h => exact ⟨h, rfl⟩
    | inl s =>
      rw [hfc] at hval
      simp only at hval
      have hs : s = st := congrArg Prod.fst (Except.ok.inj hval)
      subst hs
      rcases (frameCheck_inv hfc).1 s rfl with e | e | e
      · exact absurd e hst.1
      · exact absurd e hst.2.1
      · exact absurd e hst.2.2

/-- Where fingerprints are in use (RFC 5389 / MS-ICE2 agent with USE_FINGERPRINT), any status other
    than NOT_STUN / INCOMPLETE / BAD_REQUEST — success in particular — implies the FINGERPRINT
    attribute equals CRC-32 of the preceding bytes (length field as in the packet) xor 0x5354554e;
    for MS-ICE2 without IMPLEMENTATION-VERSION the documented WLM 2009 typo CRC is accepted too. -/
theorem C04_success_needs_fingerprint (H : Hashes) (ag ag' : Agent) (pkt : Bytes) (v : Validater) (u : Nat)
    (st : Status) (info : MsgInfo) (hval : validate H ag pkt v u = .ok (st, ag', info))
    (hst : st ≠ .notStun ∧ st ≠ .incomplete ∧ st ≠ .badRequest)
    (hcfg : isRfc5389ish ag.cfg = true ∧ ag.cfg.has STUN_AGENT_USAGE_USE_FINGERPRINT = true) :
    ∃ fpr msgLen crc, find32 (some ag.cfg) pkt tFPR = .ok (.success, fpr) ∧
      messageLength pkt = .ok msgLen ∧ fingerprint pkt msgLen.toNat false = .ok crc ∧
      (fpr = crc ∨
        (ag.cfg.compat = STUN_COMPATIBILITY_MSICE2 ∧
          find (some ag.cfg) pkt (UInt16.ofNat STUN_ATTRIBUTE_MS_IMPLEMENTATION_VERSION) = .ok none ∧
          fingerprint pkt msgLen.toNat true = .ok fpr)) := by
  obtain ⟨h, hfc⟩ := validate_frame hval hst
  have hcf : checkFingerprint ag pkt = .ok true := (frameCheck_inv hfc).2 h rfl (by rw [hcfg.1, hcfg.2]; rfl)
  unfold checkFingerprint at hcf
  simp only at hcf
  -- arms: find32 fault / SUCCESS / other: length, fingerprint, `fpr ≠ crc` (MS-ICE2: version fault / present / absent)
  split at hcf
  · cases hcf
  · next fpr h32 =>
    split at hcf
    · cases hcf
    · next msgLen hml =>
      split at hcf
      · cases hcf
      · next crc hcrc =>
        refine ⟨fpr, msgLen, crc, h32, hml, hcrc, ?_⟩
        split at hcf
        · split at hcf
          · next hms =>
            split at hcf
            · cases hcf
            · cases hcf
            · next himpl =>
              split at hcf
              · cases hcf
              · next crc2 hcrc2 =>
                rw [← eq_of_beq (Except.ok.inj hcf)] at hcrc2
                exact Or.inr ⟨by simpa using hms, himpl, hcrc2⟩
          · cases hcf
        · next heq => exact Or.inl (by simpa using heq)
  · cases hcf

/-- the stages a validation that got past framing went through -/
theorem validate_stages {H : Hashes} {ag ag' : Agent} {pkt : Bytes} {v : Validater} {u : Nat} {st : Status}
    {info : MsgInfo} {h : Hdr} (hval : validate H ag pkt v u = .ok (st, ag', info))
    (hfc : frameCheck ag pkt = .ok (.inr h)) :
    (matchResponse ag h = .inl st ∧ ag' = ag) ∨
    ∃ si f, matchResponse ag h = .inr si ∧ readFacts (some ag.cfg) pkt = .ok f ∧
      ((presenceFails ag.cfg h f (slotInfo ag si).1.isNone (ignoreCredOf ag.cfg h f) = true ∧
          st = .unauthorizedBadRequest ∧ ag' = ag) ∨
       (presenceFails ag.cfg h f (slotInfo ag si).1.isNone (ignoreCredOf ag.cfg h f) = false ∧
        ((callValidater ag.cfg pkt v f (slotInfo ag si).1 (ignoreCredOf ag.cfg h f) = .ok none ∧
            st = .unauthorized ∧ ag' = ag) ∨
         ∃ key, callValidater ag.cfg pkt v f (slotInfo ag si).1 (ignoreCredOf ag.cfg h f) = .ok (some key) ∧
           ((∃ i2, miCheck H ag.cfg pkt h f key (ignoreCredOf ag.cfg h f) (slotInfo ag si).2.1 (slotInfo ag si).2.2 =
                .ok (false, i2) ∧ st = .unauthorized ∧ ag' = ag) ∨
            (∃ i2, miCheck H ag.cfg pkt h f key (ignoreCredOf ag.cfg h f) (slotInfo ag si).2.1 (slotInfo ag si).2.2 =
                .ok (true, i2) ∧ validateTail ag pkt h f si i2 u = .ok (st, ag', info)))))) := by
  unfold validate at hval
  simp only at hval
  rw [hfc] at hval
  simp only at hval
  -- arms: matchResponse inl / inr: readFacts, presenceFails, callValidater (fault / none / key), miCheck (fault / false / true)
  split at hval
  · next s hm => cases hval; exact Or.inl ⟨hm, rfl⟩
  · next si hm =>
    right
    split at hval
    · cases hval
    · next f hf =>
      refine ⟨si, f, hm, hf, ?_⟩
      split at hval
      · next hp => cases hval; exact Or.inl ⟨hp, rfl, rfl⟩
      · next hp =>
        refine Or.inr ⟨by simpa using hp, ?_⟩
        split at hval
        · cases hval
        · next hc => cases hval; exact Or.inl ⟨hc, rfl, rfl⟩
        · next key hc =>
          refine Or.inr ⟨key, hc, ?_⟩
          split at hval
          · cases hval
          · next i2 hmi => cases hval; exact Or.inl ⟨_, hmi, rfl, rfl⟩
          · next i2 hmi => exact Or.inr ⟨i2, hmi, hval⟩

theorem matchResponse_inl {ag : Agent} {h : Hdr} {st : Status} (hm : matchResponse ag h = .inl st) :
    st = .unmatchedResponse ∧ isResponse h = true ∧ findSent ag.sent h.method h.msgId = none := by
  unfold matchResponse at hm
  split at hm
  · split at hm
    · cases hm
    · cases hm; exact ⟨rfl, ‹_›, ‹_›⟩
  · cases hm

theorem matchResponse_inr {ag : Agent} {h : Hdr} {si : Option Nat} (hm : matchResponse ag h = .inr si)
    (hr : isResponse h = true) : ∃ i, si = some i ∧ findSent ag.sent h.method h.msgId = some i := by
  unfold matchResponse at hm
  rw [if_pos hr] at hm
  split at hm
  · cases hm; exact ⟨_, rfl, ‹_›⟩
  · cases hm

/-- what the tail of a validation can report; a passed one invalidates only the matched slot (and may clear
    the MS-ICE2 legacy flag) -/
theorem validateTail_inv {ag ag' : Agent} {pkt : Bytes} {h : Hdr} {f : Facts} {si : Option Nat}
    {i2 info : MsgInfo} {u : Nat} {st : Status} (ht : validateTail ag pkt h f si i2 u = .ok (st, ag', info)) :
    (st = .forbidden ∧ ag' = ag) ∨ (passed st ∧ ag'.cfg = ag.cfg ∧ ag'.sent = invalidate ag.sent si) := by
  unfold validateTail at ht
  simp only at ht
  split at ht
  · cases ht; exact Or.inl ⟨rfl, rfl⟩
  · split at ht
    · cases ht
    · split at ht
      · cases ht
      · split at ht <;> cases ht
        · exact Or.inr ⟨by unfold passed; split <;> simp, rfl, rfl⟩
        · exact Or.inr ⟨Or.inl rfl, rfl, rfl⟩

/-- a passed validation went through every stage -/
theorem validate_passed {H : Hashes} {ag ag' : Agent} {pkt : Bytes} {v : Validater} {u : Nat} {st : Status}
    {info : MsgInfo} {h : Hdr} (hval : validate H ag pkt v u = .ok (st, ag', info))
    (hfc : frameCheck ag pkt = .ok (.inr h)) (hp : passed st) :
    ∃ si f key i2, matchResponse ag h = .inr si ∧ readFacts (some ag.cfg) pkt = .ok f ∧
      callValidater ag.cfg pkt v f (slotInfo ag si).1 (ignoreCredOf ag.cfg h f) = .ok (some key) ∧
      miCheck H ag.cfg pkt h f key (ignoreCredOf ag.cfg h f) (slotInfo ag si).2.1 (slotInfo ag si).2.2 = .ok (true, i2) ∧
      validateTail ag pkt h f si i2 u = .ok (st, ag', info) := by
  have hne : st ≠ .unmatchedResponse ∧ st ≠ .unauthorizedBadRequest ∧ st ≠ .unauthorized := by
    rcases hp with h1 | h1 | h1 <;> rw [h1] <;> exact ⟨by decide, by decide, by decide⟩
  rcases validate_stages hval hfc with ⟨h1, _⟩ | ⟨si, f, hmr, hrf, hrest⟩
  · exact absurd (matchResponse_inl h1).1 hne.1
  · rcases hrest with ⟨_, h2, _⟩ | ⟨_, ⟨_, h2, _⟩ | ⟨key, hcv, ⟨i2, _, h2, _⟩ | ⟨i2, hmi, ht⟩⟩⟩
    · exact absurd h2 hne.2.1
    · exact absurd h2 hne.2.2
    · exact absurd h2 hne.2.2
    · exact ⟨si, f, key, i2, hmr, hrf, hcv, hmi, ht⟩

/-- **C04_unmatched_is_response.**  stun_agent_validate reports UNMATCHED_RESPONSE only for a message of class
    response / error response (the assumption `hv` of the regenerated inbound skeleton, Props/C03Flow). -/
theorem C04_unmatched_is_response (H : Hashes) (ag ag' : Agent) (pkt : Bytes) (v : Validater) (u : Nat)
    (info : MsgInfo) (hval : validate H ag pkt v u = .ok (.unmatchedResponse, ag', info)) :
    ∃ h, frameCheck ag pkt = .ok (.inr h) ∧ isResponse h = true := by
  obtain ⟨h, hfc⟩ := validate_frame hval ⟨by decide, by decide, by decide⟩
  refine ⟨h, hfc, ?_⟩
  rcases validate_stages hval hfc with ⟨h1, _⟩ | ⟨si, f, _, _, h2⟩
  · exact (matchResponse_inl h1).2.1
  · exfalso
    rcases h2 with ⟨_, h3, _⟩ | ⟨_, ⟨_, h3, _⟩ | ⟨key, _, ⟨i2, _, h3, _⟩ | ⟨i2, _, h3⟩⟩⟩
    · cases h3
    · cases h3
    · cases h3
    · rcases validateTail_inv h3 with ⟨h4, _⟩ | ⟨h4 | h4 | h4, _⟩ <;> cases h4

theorem findSent_some {sent : Array SavedId} {method : Nat} {id : Bytes} {i : Nat}
    (h : findSent sent method id = some i) :
    i < sent.size ∧ (sent.getD i {}).valid = true ∧ (sent.getD i {}).method = method ∧ (sent.getD i {}).id = id := by
  unfold findSent at h
  have h1 := List.find?_some h
  have h2 := List.mem_of_find?_eq_some h
  simp only [Bool.and_eq_true, beq_iff_eq] at h1
  exact ⟨by simpa using h2, h1.1.1, h1.1.2, h1.2⟩

/-- A response or error response is accepted — gets past transaction matching at all — only while a
    request with the same transaction id AND method is outstanding (a valid saved id). -/
theorem C04_response_needs_outstanding (H : Hashes) (ag ag' : Agent) (pkt : Bytes) (v : Validater) (u : Nat)
    (st : Status) (info : MsgInfo) (h : Hdr) (hval : validate H ag pkt v u = .ok (st, ag', info))
    (hfc : frameCheck ag pkt = .ok (.inr h)) (hresp : isResponse h = true)
    (hst : st ≠ .unmatchedResponse) :
    ∃ i, i < ag.sent.size ∧ (ag.sent.getD i {}).valid = true ∧ (ag.sent.getD i {}).method = h.method ∧
      (ag.sent.getD i {}).id = h.msgId := by
  rcases validate_stages hval hfc with ⟨h1, _⟩ | ⟨si, f, h1, _⟩
  · exact absurd (matchResponse_inl h1).1 hst
  · obtain ⟨i, _, hi⟩ := matchResponse_inr h1 hresp
    exact ⟨i, findSent_some hi⟩

/-- once the matched slot is invalidated, and no other slot matched, nothing matches -/
theorem findSent_invalidate {sent : Array SavedId} {method : Nat} {id : Bytes} {i : Nat}
    (h : findSent sent method id = some i)
    (huniq : ∀ j, j ≠ i → ¬ ((sent.getD j {}).valid = true ∧ (sent.getD j {}).method = method ∧
      (sent.getD j {}).id = id)) :
    findSent (invalidate sent (some i)) method id = none := by
  obtain ⟨hilt, _⟩ := findSent_some h
  unfold findSent invalidate
  apply List.find?_eq_none.mpr
  intro j _
  simp only [Array.getD_eq_getD_getElem?, Array.getElem?_modify]
  by_cases hji : i = j
  · subst hji
    simp [hilt]
  · rw [if_neg hji]
    intro hv
    simp only [Bool.and_eq_true, beq_iff_eq] at hv
    exact huniq j (Ne.symm hji) (by simpa [Array.getD_eq_getD_getElem?] using ⟨hv.1.1, hv.1.2, hv.2⟩)

theorem matchResponse_unmatched {ag : Agent} {h : Hdr} (hr : isResponse h = true)
    (hn : findSent ag.sent h.method h.msgId = none) : matchResponse ag h = .inl .unmatchedResponse := by
  unfold matchResponse; rw [if_pos hr, hn]

theorem frameCheck_cfg (ag ag' : Agent) (pkt : Bytes) (hc : ag'.cfg = ag.cfg) :
    frameCheck ag' pkt = frameCheck ag pkt := by
  unfold frameCheck checkFingerprint
  rw [hc]

/-- A response is accepted at most once: after a response has been validated successfully (the
    request it matched being the only outstanding one with that id and method), validating the same
    bytes again — with any validater — yields UNMATCHED_RESPONSE. -/
theorem C04_response_at_most_once (H : Hashes) (ag ag' : Agent) (pkt : Bytes) (v v2 : Validater) (u u2 : Nat)
    (st : Status) (info : MsgInfo) (h : Hdr) (hval : validate H ag pkt v u = .ok (st, ag', info))
    (hfc : frameCheck ag pkt = .ok (.inr h)) (hresp : isResponse h = true) (hp : passed st)
    (huniq : ∀ i j, findSent ag.sent h.method h.msgId = some i → j ≠ i →
      ¬ ((ag.sent.getD j {}).valid = true ∧ (ag.sent.getD j {}).method = h.method ∧
         (ag.sent.getD j {}).id = h.msgId)) :
    validate H ag' pkt v2 u2 = .ok (.unmatchedResponse, ag', {}) := by
  obtain ⟨si, f, key, i2, hmr, _, _, _, htail⟩ := validate_passed hval hfc hp
  obtain ⟨i, hsi, hfs⟩ := matchResponse_inr hmr hresp
  subst hsi
  obtain ⟨hcfg, hsent⟩ : ag'.cfg = ag.cfg ∧ ag'.sent = invalidate ag.sent (some i) := by
    rcases validateTail_inv htail with ⟨h1, _⟩ | ⟨_, h2⟩
    · rcases hp with e | e | e <;> rw [e] at h1 <;> cases h1
    · exact h2
  unfold validate
  simp only
  rw [frameCheck_cfg ag ag' pkt hcfg, hfc]
  simp only
  rw [matchResponse_unmatched hresp (hsent ▸ findSent_invalidate hfs fun j hj => huniq i j hfs hj)]

/-- the key the MAC check uses for a message: under long-term credentials the MD5 credential hash
    (stored with the request, or derived from USERNAME / REALM of the message), else the key itself -/
def MacKey (H : Hashes) (c : Cfg) (pkt k : Bytes) (ltValid0 : Bool) (ltKey0 : Bytes) (macKey : Bytes) : Prop :=
  if c.has STUN_AGENT_USAGE_LONG_TERM_CREDENTIALS then longTermKey H c pkt k ltValid0 ltKey0 = .ok (some macKey)
  else macKey = k

theorem MacKey.long {H : Hashes} {c : Cfg} {pkt k : Bytes} {lv : Bool} {lk mk : Bytes}
    (hl : c.has STUN_AGENT_USAGE_LONG_TERM_CREDENTIALS = true) (h : longTermKey H c pkt k lv lk = .ok (some mk)) :
    MacKey H c pkt k lv lk mk := by
  unfold MacKey; rw [if_pos hl]; exact h

theorem MacKey.short {H : Hashes} {c : Cfg} {pkt k : Bytes} {lv : Bool} {lk : Bytes}
    (hl : ¬ c.has STUN_AGENT_USAGE_LONG_TERM_CREDENTIALS = true) : MacKey H c pkt k lv lk k := by
  unfold MacKey; rw [if_neg hl]

/-- what "MESSAGE-INTEGRITY is right" means: the attribute is present with 20 bytes and they equal
    HMAC-SHA1, under `macKey`, of the RFC-defined message prefix `macInput` (bytes 0-1, the rewritten
    16-bit length, bytes 4 .. start of M-I, zero padded to 64 for RFC 3489 style agents) -/
def IntegrityOk (H : Hashes) (c : Cfg) (pkt : Bytes) (macKey : Bytes) : Prop :=
  ∃ hoff ml text, find (some c) pkt tMI = .ok (some (hoff, 20)) ∧ macLenOf c pkt hoff = .ok ml ∧
    macInput pkt (hoff + 20) ml (macPadOf c) = .ok text ∧ rdBytes pkt hoff 20 = .ok (H.hmac macKey text)

/-- the comparison both credential modes of `miCheckKey` end in passes only when the attribute's 20 bytes
    are the HMAC of the MAC text -/
theorem macCompare_true {H : Hashes} {pkt key : Bytes} {len hoff : Nat} {ml : UInt16} {pad : Bool}
    {x y r : Bool × MsgInfo} (hx : x.1 = false) (hr : r.1 = true)
    (h : (match stunSha1 H pkt len ml key pad, rdBytes pkt hoff 20 with
      | .ok sha, .ok hash => if sha != hash then (.ok x : M (Bool × MsgInfo)) else .ok y
      | .error e, _ => .error e
      | _, .error e => .error e) = .ok r) :
    ∃ text, macInput pkt len ml pad = .ok text ∧ rdBytes pkt hoff 20 = .ok (H.hmac key text) := by
  unfold stunSha1 at h
  split at h
  · next sha hash hsha hhash =>
    split at hsha
    · cases hsha
    · next text hmi =>
      split at h
      · rw [← Except.ok.inj h, hx] at hr; cases hr
      · next heq =>
        have : sha = hash := by simpa using heq
        exact ⟨text, hmi, by rw [hhash, ← this, ← Except.ok.inj hsha]⟩
  · cases h
  · cases h

theorem miCheckKey_true {H : Hashes} {c : Cfg} {pkt : Bytes} {h : Hdr} {f : Facts} {k : Bytes} {lv : Bool}
    {lk : Bytes} {i2 : MsgInfo} (hm : miCheckKey H c pkt h f k lv lk = .ok (true, i2)) :
    (∃ macKey, MacKey H c pkt k lv lk macKey ∧ IntegrityOk H c pkt macKey) ∨
    (find (some c) pkt tMI = .ok none ∧ h.cls = STUN_ERROR ∧ f.errRet = .success ∧
      (f.errCode = STUN_ERROR_BAD_REQUEST ∨ f.errCode = STUN_ERROR_UNAUTHORIZED)) := by
  unfold miCheckKey at hm
  -- arms: find fault / found: length, macLenOf, long-term (key fault / none / md5) or short-term, the comparison / absent
  split at hm
  · cases hm
  · next hoff hlen hfind =>
    left
    split at hm
    · cases hm
    · next h20 =>
      have hl : hlen = 20 := by simpa using h20
      subst hl
      split at hm
      · cases hm
      · next ml hml =>
        split at hm
        · next hlong =>
          split at hm
          · cases hm
          · cases hm
          · next md5 hlt =>
            obtain ⟨text, hmi, hrd⟩ := macCompare_true rfl rfl hm
            exact ⟨md5, .long hlong hlt, hoff, ml, text, hfind, hml, hmi, hrd⟩
        · next hlong =>
          obtain ⟨text, hmi, hrd⟩ := macCompare_true rfl rfl hm
          exact ⟨k, .short hlong, hoff, ml, text, hfind, hml, hmi, hrd⟩
  · next hfind =>
    right
    split at hm
    · cases hm
    · next hc =>
      have : (h.cls = STUN_ERROR ∧ f.errRet = .success) ∧
          (¬ f.errCode = STUN_ERROR_BAD_REQUEST → f.errCode = STUN_ERROR_UNAUTHORIZED) := by simpa using hc
      exact ⟨hfind, this.1.1, this.1.2, Decidable.or_iff_not_imp_left.mpr this.2⟩

/-- conversely, under short-term credentials a right MESSAGE-INTEGRITY passes -/
theorem miCheckKey_of_integrity {H : Hashes} {c : Cfg} {pkt : Bytes} {k : Bytes}
    (hshort : c.has STUN_AGENT_USAGE_LONG_TERM_CREDENTIALS = false) (hi : IntegrityOk H c pkt k)
    (h : Hdr) (f : Facts) (lv : Bool) (lk : Bytes) :
    miCheckKey H c pkt h f k lv lk = .ok (true, { key := some k }) := by
  obtain ⟨hoff, ml, text, hfind, hml, hmac, hrd⟩ := hi
  unfold miCheckKey
  rw [hfind]
  simp only
  rw [if_neg (by decide), hml]
  simp only
  rw [if_neg (by rw [hshort]; decide)]
  unfold stunSha1
  rw [hmac]
  simp only
  rw [hrd]
  simp

/-- A received message is reported as validated (SUCCESS, or UNKNOWN_*ATTRIBUTE, which come after
    every credential check) only if — whenever a non-empty key applies and credentials are not
    exempted (`ignoreCredOf`: IGNORE_CREDENTIALS usage; error responses 300/400/401/438; indications
    under LONG_TERM / NO_INDICATION_AUTH) — its MESSAGE-INTEGRITY equals HMAC-SHA1 of the RFC-defined
    prefix under that key.  (The only other way through: an error response 400/401 without M-I.)
    The key is the one `callValidater` yields: see `C04_key_provenance`. -/
theorem C04_success_needs_integrity (H : Hashes) (ag ag' : Agent) (pkt : Bytes) (v : Validater) (u : Nat)
    (st : Status) (info : MsgInfo) (h : Hdr) (hval : validate H ag pkt v u = .ok (st, ag', info))
    (hfc : frameCheck ag pkt = .ok (.inr h)) (hp : passed st) :
    ∃ si f key, matchResponse ag h = .inr si ∧ readFacts (some ag.cfg) pkt = .ok f ∧
      callValidater ag.cfg pkt v f (slotInfo ag si).1 (ignoreCredOf ag.cfg h f) = .ok (some key) ∧
      ∀ k, key = some k → k.size > 0 → ignoreCredOf ag.cfg h f = false →
        (∃ macKey, MacKey H ag.cfg pkt k (slotInfo ag si).2.1 (slotInfo ag si).2.2 macKey ∧
          IntegrityOk H ag.cfg pkt macKey) ∨
        (find (some ag.cfg) pkt tMI = .ok none ∧ h.cls = STUN_ERROR ∧ f.errRet = .success ∧
          (f.errCode = STUN_ERROR_BAD_REQUEST ∨ f.errCode = STUN_ERROR_UNAUTHORIZED)) := by
  obtain ⟨si, f, key, i2, hmr, hrf, hcv, hmi, _⟩ := validate_passed hval hfc hp
  refine ⟨si, f, key, hmr, hrf, hcv, fun k hk hsz hic => ?_⟩
  subst hk
  unfold miCheck at hmi
  simp only at hmi
  rw [if_pos (by rw [hic]; simpa using hsz)] at hmi
  exact miCheckKey_true hmi

/-- where the key comes from: when the validater is consulted (M-I present and no stored key, or
    FORCE_VALIDATER) it is the validater's answer for the bytes of the packet's USERNAME attribute
    (the empty string if absent); otherwise it is the key stored with the matching request -/
theorem C04_key_provenance (c : Cfg) (pkt : Bytes) (v : Validater) (f : Facts) (key0 key : Option Bytes)
    (ic : Bool) (hcv : callValidater c pkt v f key0 ic = .ok (some key)) :
    (∃ g uname, v = some g ∧ g uname = some key ∧
      ((∃ off len, find (some c) pkt tUSERNAME = .ok (some (off, len)) ∧ rdBytes pkt off len.toNat = .ok uname) ∨
       (find (some c) pkt tUSERNAME = .ok none ∧ uname = #[]))) ∨
    key = key0 := by
  unfold callValidater at hcv
  -- arms: consulted (USERNAME lookup, its bytes, validater none / `g`, `g uname` none / some) or not
  split at hcv
  · left
    split at hcv
    · cases hcv
    · next u hfind =>
      simp only at hcv
      split at hcv
      · cases hcv
      · next uname hu =>
        split at hcv
        · cases hcv
        · next g =>
          split at hcv
          · cases hcv
          · next k hg =>
            cases hcv
            refine ⟨g, uname, rfl, hg, ?_⟩
            rcases u with _ | ⟨off, len⟩
            · cases hu; exact Or.inr ⟨hfind, rfl⟩
            · exact Or.inl ⟨off, len, hfind, hu⟩
  · right
    exact (Option.some.inj (Except.ok.inj hcv)).symm

/-- **the key bound to its USERNAME**: `stun_agent_default_validater` hands out a password only from a table entry whose
    username is exactly the message's USERNAME — never for a name that merely starts with, or extends, a registered one —
    and it is the first such entry. -/
theorem C04_default_validater_exact_name (tab : List (Bytes × Option Bytes)) (uname : Bytes) (k : Option Bytes)
    (h : defaultValidater tab uname = some k) : (uname, k) ∈ tab := by
  unfold defaultValidater at h
  cases hf : tab.find? (·.1 == uname) with
  | none => simp [hf] at h
  | some e =>
    simp only [hf, Option.map_some, Option.some.injEq] at h
    have hm := List.mem_of_find?_eq_some hf
    have he := List.find?_some hf
    have : e.1 = uname := by simpa using he
    cases e; simp_all

/-- an unknown name is refused whatever it starts with -/
theorem C04_default_validater_unknown_name (tab : List (Bytes × Option Bytes)) (uname : Bytes)
    (h : ∀ e ∈ tab, e.1 ≠ uname) : defaultValidater tab uname = none := by
  unfold defaultValidater
  rw [List.find?_eq_none.mpr]
  · rfl
  · intro e he; simpa using h e he

/-! ### non-vacuity -/

/-- the framing stage accepts the 20-byte binding request of C06 under an RFC 3489 agent -/
theorem frame_hdr20 : ∃ h, frameCheck (agentInit [] 0 0) C06.hdr20 = .ok (.inr h) := by
  unfold frameCheck
  have e : (!(agentInit [] 0 0).cfg.has STUN_AGENT_USAGE_NO_ALIGNED_ATTRIBUTES) = true := by decide
  simp only [e, C06.hdr20_valid]
  exact ⟨_, rfl⟩

/-- the two hypotheses shared by the theorems above (`validate … = .ok …` and `frameCheck … = .ok
    (.inr h)`) hold together for that packet -/
example : ∃ st ag' info h, validate ⟨fun _ _ => #[], fun _ => #[]⟩ (agentInit [] 0 0) C06.hdr20 none 0 =
    .ok (st, ag', info) ∧ frameCheck (agentInit [] 0 0) C06.hdr20 = .ok (.inr h) := by
  obtain ⟨r, hr⟩ := validate_ok ⟨fun _ _ => #[], fun _ => #[]⟩ (agentInit [] 0 0) C06.hdr20 none 0 (by decide)
  obtain ⟨st, ag', info⟩ := r
  obtain ⟨h, hfc⟩ := frame_hdr20
  exact ⟨st, ag', info, h, hr, hfc⟩

example : passed .success := Or.inl rfl

example : defaultValidater [(#[99, 97, 114, 108], some #[1]), (#[99, 97, 114, 108, 58], some #[2])] #[99, 97, 114, 108, 58] = some (some #[2]) ∧
    defaultValidater [(#[99, 97, 114, 108], some #[1])] #[99, 97, 114, 108, 58] = none := by decide

end Nice.Props.C04
