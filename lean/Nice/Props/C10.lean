/-
  C10 — Hostile or foreign segments cannot corrupt, crash or overrun a pseudo-TCP socket.
  Theorems about `Nice.PTcp` (model of agent/pseudotcp.c).  The model is tied to the source by the ptcp_drv
  correspondence stream (checks/C10.py); constants, PACKET_MAXIMUMS, the set_state whitelist and the sequence-comparison
  kernels come from `Nice.Gen` (regenerated from the source on every run).
-/
import Nice.Proofs.PTcpInv
-- checks/C10.py audits its theorems through this module
import Nice.Props.C10Kernels
namespace Nice.Props.C10
open Nice.PTcp Nice.Gen Nice.Proofs.PTcp

/-- big-endian 32-bit word at offset `o` (what `ntohl (*(guint32 *) (buf + o))` reads) -/
def be32 (p : Array UInt8) (o : Nat) : UInt32 :=
  ((p.getD o 0).toUInt32 <<< 24) ||| ((p.getD (o + 1) 0).toUInt32 <<< 16) |||
  ((p.getD (o + 2) 0).toUInt32 <<< 8) ||| (p.getD (o + 3) 0).toUInt32

theorem rd_ok (p : Array UInt8) (i : Nat) (h : i < p.size) : rd p i = .ok (p.getD i 0) := by
  unfold rd
  simp [h, pure, Except.pure, Array.getD]

theorem rd32_ok (p : Array UInt8) (o : Nat) (h : o + 3 < p.size) : rd32 p o = .ok (be32 p o) := by
  unfold rd32
  simp only [bind, Except.bind, rd_ok p o (by omega), rd_ok p (o + 1) (by omega), rd_ok p (o + 2) (by omega),
    rd_ok p (o + 3) (by omega), pure, Except.pure, be32]

theorem rd16_ok (p : Array UInt8) (o : Nat) (h : o + 1 < p.size) :
    rd16 p o = .ok (((p.getD o 0).toUInt16 <<< 8) ||| (p.getD (o + 1) 0).toUInt16) := by
  unfold rd16
  simp only [bind, Except.bind, rd_ok p o (by omega), rd_ok p (o + 1) (by omega), pure, Except.pure]

/-- A packet for another conversation: `notify_packet` returns FALSE and changes no field of the socket (the event list
    `out` is one of them, so nothing is emitted) — in every state, at every clock value. -/
theorem C10_wrong_conv_noop (s : Sock) (p : Array UInt8) (clk : UInt32)
    (hlo : HEADER_SIZE ≤ p.size) (hhi : p.size ≤ MAX_PACKET) (hconv : be32 p 0 ≠ s.conv) :
    notifyPacket s p clk = .ok (false, s) := by
  have h24 : HEADER_SIZE = 24 := rfl
  unfold notifyPacket
  have h1 : ¬ p.size > MAX_PACKET := by omega
  have h2 : ¬ p.size < HEADER_SIZE := by omega
  simp only [h1, h2, if_false]
  unfold parse
  simp only [bind, Except.bind, rd32_ok p 0 (by omega), rd32_ok p 4 (by omega), rd32_ok p 8 (by omega),
    rd_ok p 13 (by omega), rd16_ok p 14 (by omega), rd32_ok p 16 (by omega), rd32_ok p 20 (by omega)]
  unfold process
  simp [hconv, pure, Except.pure]

/-- non-vacuity: a 24-byte packet for conversation 1 at a fresh socket of conversation 0 -/
example : notifyPacket (Sock.init 0) (#[0, 0, 0, 1] ++ Array.replicate 20 (0 : UInt8)) 5 = .ok (false, Sock.init 0) :=
  C10_wrong_conv_noop (Sock.init 0) (#[0, 0, 0, 1] ++ Array.replicate 20 (0 : UInt8)) 5 (by decide) (by decide) (by decide)

/-- Shorter than the header: refused, nothing emitted, only the errno changes (`EINVAL`). -/
theorem C10_short_packet_noop (s : Sock) (p : Array UInt8) (clk : UInt32) (h : p.size < HEADER_SIZE) :
    notifyPacket s p clk = .ok (false, { s with error := .EINVAL }) := by
  have h24 : HEADER_SIZE = 24 := rfl
  have hm : MAX_PACKET = 65532 := rfl
  unfold notifyPacket
  have h1 : ¬ p.size > MAX_PACKET := by omega
  simp [h1, h, pure, Except.pure]

example : notifyPacket (Sock.init 0) #[1, 2, 3] 5 = .ok (false, { Sock.init 0 with error := .EINVAL }) :=
  C10_short_packet_noop _ _ _ (by decide)

/-- Longer than MAX_PACKET: refused, nothing emitted, errno `EMSGSIZE`. -/
theorem C10_long_packet_noop (s : Sock) (p : Array UInt8) (clk : UInt32) (h : p.size > MAX_PACKET) :
    notifyPacket s p clk = .ok (false, { s with error := .EMSGSIZE }) := by
  unfold notifyPacket
  simp [h, pure, Except.pure]

example : ∃ p : Array UInt8, p.size > MAX_PACKET := ⟨Array.replicate 65533 0, by simp; decide⟩

theorem ite_total {α : Type} {c : Prop} [Decidable c] {x y : R α} (hx : c → ∃ r, x = .ok r) (hy : ¬ c → ∃ r, y = .ok r) :
    ∃ r, (if c then x else y) = .ok r := by
  split
  · exact hx ‹_›
  · exact hy ‹_›

theorem bind_total {α β : Type} {x : R α} {f : α → R β} {a : α} (hx : x = .ok a) (hf : ∃ r, f a = .ok r) :
    ∃ r, (x >>= f) = .ok r :=
  hf.imp fun _ => ok_bind hx

theorem applyOption_total (s : Sock) (k : UInt8) (p : Array UInt8) (off len : Nat) (h : off + len ≤ p.size) :
    ∃ s', applyOption s k p off len = .ok s' := by
  unfold applyOption
  refine ite_total (fun _ => ⟨_, rfl⟩) fun _ => ite_total (fun _ => ?_) fun _ => ite_total (fun _ => ⟨_, rfl⟩) fun _ => ⟨_, rfl⟩
  refine ite_total (fun _ => ⟨_, rfl⟩) fun hl => bind_total (rd_ok p off (by omega)) ⟨_, rfl⟩

/-- The option parser terminates (its `termination_by` is the remaining length) and never reads outside
    `p[base, base+len)` nor faults, for every byte string, start position and state. -/
theorem C10_parse_options_no_fault (p : Array UInt8) (base len : Nat) (hb : base + len ≤ p.size) :
    ∀ (pos : Nat) (s : Sock) (w f : Bool), ∃ r, parseOptionsLoop s p base len pos w f = .ok r := by
  intro pos
  induction hn : len - pos using Nat.strongRecOn generalizing pos with
  | _ n ih =>
    intro s w f
    unfold parseOptionsLoop
    by_cases h1 : pos < len
    · rw [dif_pos h1]
      refine ite_total (fun _ => ⟨_, rfl⟩) fun _ => bind_total (rd_ok p (base + pos) (by omega)) ?_
      refine ite_total (fun _ => ⟨_, rfl⟩) fun _ => ite_total (fun _ => ih _ (by omega) (pos + 1) rfl s w f) fun _ => ?_
      refine ite_total (fun _ => ⟨_, rfl⟩) fun h3 => bind_total (rd_ok p (base + (pos + 1)) (by omega)) ?_
      refine ite_total (fun _ => ⟨_, rfl⟩) fun h4 => ite_total (fun _ => ?_) fun _ => ⟨_, rfl⟩
      obtain ⟨s1, hs1⟩ := applyOption_total s (p.getD (base + pos) 0) p (base + (pos + 1 + 1))
        (p.getD (base + (pos + 1)) 0).toNat (by omega)
      exact bind_total hs1 (ih _ (by omega) _ rfl s1 _ _)
    · rw [dif_neg h1]
      exact ⟨_, rfl⟩

example : ∃ r, parseOptionsLoop (Sock.init 0) #[0, 3, 1, 200, 254, 1, 0] 1 6 0 false false = .ok r :=
  C10_parse_options_no_fault _ 1 6 (by decide) 0 _ _ _

/-- Only a well-formed window-scale option changes the peer's scale factor: every other kind (the unsupported MSS option
    included, whatever its length) and a window-scale option of the wrong length leave `swnd_scale` alone. -/
theorem C10_only_window_scale_option_sets_scale (s s' : Sock) (kind : UInt8) (p : Array UInt8) (off len : Nat)
    (h : applyOption s kind p off len = .ok s') (hk : kind.toNat ≠ TCP_OPT_WND_SCALE ∨ len ≠ 1) :
    s'.swnd_scale = s.swnd_scale := by
  unfold applyOption at h
  split at h
  · cases h; rfl
  · split at h
    · rename_i hws
      split at h
      · cases h; rfl
      · rename_i hl; rcases hk with hk | hk
        · exact absurd hws hk
        · exact absurd (by simpa using hl) hk
    · split at h <;> (cases h; rfl)

/-- With a scale factor of at most 14 the C expression `seg->wnd << swnd_scale` (an `int` shift of a 16-bit value) is
    defined. -/
theorem C10_shift_no_fault (wnd : UInt16) (scale : UInt8) (h : scale ≤ 14) : ∃ v, shiftWnd wnd scale = .ok v := by
  unfold shiftWnd
  have hs : scale.toNat ≤ 14 := by
    have := UInt8.le_iff_toNat_le.mp h
    simpa using this
  have hw : wnd.toNat < 65536 := wnd.toNat_lt
  have hp : 2 ^ scale.toNat ≤ 2 ^ 14 := Nat.pow_le_pow_right (by omega) hs
  have : wnd.toNat * 2 ^ scale.toNat < 2 ^ 31 := by
    calc wnd.toNat * 2 ^ scale.toNat ≤ 65535 * 2 ^ 14 := Nat.mul_le_mul (by omega) hp
      _ < 2 ^ 31 := by decide
  have h1 : ¬ (scale.toNat ≥ 32 ∨ wnd.toNat * 2 ^ scale.toNat ≥ 2 ^ 31) := by omega
  simp only [h1, if_false]
  exact ⟨_, rfl⟩

/-- After every history of public operations — arbitrary packets (any option list, scale factors up to 255), clock
    values, `WritePacket` results; so by `C10_shift_no_fault` neither window shift is ever undefined. -/
theorem C10_swnd_scale_le_14 (conv : UInt32) (ops : List (UInt32 × Op)) (s' : Sock)
    (h : run (Sock.init conv) ops = .ok s') : s'.swnd_scale ≤ 14 ∧ s'.rwnd_scale < 32 :=
  let i := run_inv0 ops _ s' (init_inv0 conv) h
  ⟨i.sws, i.rws⟩

example : run (Sock.init 7) [(5, .setTime 9), (5, .setWres .fail)] = .ok (setTime { Sock.init 7 with wres := .fail } 9) := rfl

/-- Piece 1 of the invariant, for every PseudoTcpFifo operation, whatever its arguments. -/
theorem C10_fifo_ok_preserved (b : Fifo) (hb : FifoOk b) (hc : b.buf.size < 2 ^ 64) :
    (∀ n b', b.consumeReadData n = .ok b' → FifoOk b') ∧
    (∀ n b', b.consumeWriteBuffer n = .ok b' → FifoOk b') ∧
    (∀ src so n off c b', b.writeOffset src so n off = .ok (c, b') → FifoOk b') ∧
    (∀ src n c b', b.write src n = .ok (c, b') → FifoOk b') ∧
    (∀ n out b', b.read n = .ok (out, b') → FifoOk b') ∧
    (∀ n r b', b.setCapacity n = .ok (r, b') → FifoOk b') :=
  ⟨fun _ _ h => (consumeReadData_ok ⟨hb, hc⟩ h).1.1, fun _ _ h => (consumeWriteBuffer_ok ⟨hb, hc⟩ h).1.1,
   fun _ _ _ _ _ _ h => (writeOffset_ok ⟨hb, hc⟩ h).1.1, fun _ _ _ _ h => (write_ok ⟨hb, hc⟩ h).1.1,
   fun _ _ _ h => (read_ok ⟨hb, hc⟩ h).1.1, fun _ _ _ h => (setCapacity_ok hb h).1⟩

example : FifoOk (Fifo.init 8) := fifo_init_ok 8 (by decide)

/-- The undelivered data never exceeds the receive ring (and the same for the send ring), after every history. -/
theorem C10_rbuf_bounded (conv : UInt32) (ops : List (UInt32 × Op)) (s' : Sock)
    (h : run (Sock.init conv) ops = .ok s') :
    getAvailableBytes s' ≤ s'.rbuf.buf.size ∧ s'.sbuf.data ≤ s'.sbuf.buf.size :=
  let i := run_inv0 ops _ s' (init_inv0 conv) h
  ⟨i.rb.1.1, i.sb.1.1⟩

/-- an ESTABLISHED socket with 4 never-sent bytes queued whose peer advertised a window of 1 byte -/
def windowWitness : Sock :=
  { Sock.init 1 with
    state := .established, current_time := 1000, lastsend := 1000,
    sbuf := { buf := #[1, 2, 3, 4, 0, 0, 0, 0], data := 4, rpos := 0 },
    rbuf := Fifo.init 8, rbuf_len := 8, rcv_wnd := 8,
    slist := [{ seq := 0, len := 4, xmit := 0, flags := 0, unsent := true }],
    snd_wnd := 1, mss := 1284, cwnd := 2568 }

/-- more sequence space in flight than the advertised window + 1 (the FIN's sequence number) -/
def newDataBeyondWindow (s : Sock) (r : R Sock) : Bool :=
  match r with
  | .ok s' => decide ((s'.snd_nxt - s'.snd_una).toNat > s.snd_wnd.toNat + 1)
  | .error _ => false

/-- **C10_respects_window is FALSE for the code as it is** (KNOWN finding C10-fin-rst-flush): `shutdown (WR)` on the
    witness transmits all 4 queued bytes although the peer's window is 1 — `attempt_send (sfFin)` (and `sfRst`) skips
    the window test and loops until `unsent_slist` is empty.  The same schedule on the real code is
    corpus/C10/fin_flush_beyond_window.ops. -/
theorem C10_respects_window_counterexample :
    newDataBeyondWindow windowWitness (shutdown windowWitness .wr 1000) = true := by decide +kernel

/-- Outside the FIN / RST flush the number of new bytes `attempt_send` hands to `transmit` in one round (`nAvailable`:
    the segment is split to this length right before the call, and `transmit` advances `snd_nxt` by at most the segment
    length) never exceeds what the peer's last advertised window leaves open.
    Missing for the full statement: the composition over the `attempt_send` loop and `process` (needs `transmit`'s effect
    on `snd_nxt`); for `sfFin` / `sfRst` it is false (counterexample above). -/
theorem C10_respects_window_partial (s : Sock) :
    nAvailableOf s = 0 ∨ (s.snd_nxt - s.snd_una).toNat + (nAvailableOf s).toNat ≤ s.snd_wnd.toNat := by
  -- `nAvailable ≤ nUseable = min (snd_wnd, cwnd) - nInFlight`, or 0 when the window is used up
  unfold nAvailableOf
  simp only
  generalize hcw : (if (s.dup_acks == 1 || s.dup_acks == 2) = true then s.cwnd + s.dup_acks.toUInt32 * s.mss else s.cwnd) = cw
  generalize hfl : s.snd_nxt - s.snd_una = fl
  generalize hav : (if s.sbuf.getBuffered < fl.toNat then (0 : UInt32)
      else UInt32.ofNat (min (gsub s.sbuf.getBuffered fl.toNat) s.mss.toNat)) = av
  have hmin : (min s.snd_wnd cw).toNat ≤ s.snd_wnd.toNat := by
    have : min s.snd_wnd cw = if s.snd_wnd ≤ cw then s.snd_wnd else cw := rfl
    rw [this]; split
    · exact Nat.le_refl _
    · rename_i h; rw [UInt32.le_iff_toNat_le] at h; omega
  by_cases h1 : fl < min s.snd_wnd cw
  · simp only [h1, if_true]
    have hs := UInt32.toNat_sub_of_le _ _ (UInt32.le_of_lt h1)
    have h1' := UInt32.lt_iff_toNat_lt.mp h1
    split
    · split
      · left; rfl
      · right; rw [hs]; omega
    · rename_i h2
      right
      have : av.toNat ≤ (min s.snd_wnd cw - fl).toNat := by
        have := UInt32.not_lt.mp h2
        exact UInt32.le_iff_toNat_le.mp this
      rw [hs] at this; omega
  · simp only [h1, if_false]
    split
    · split
      · left; rfl
      · left; rfl
    · rename_i h2
      left
      have := UInt32.not_lt.mp h2
      have h0 : av.toNat ≤ (0 : UInt32).toNat := UInt32.le_iff_toNat_le.mp this
      have : av.toNat = 0 := by simpa using h0
      exact UInt32.toNat_inj.mp (by simpa using this)

example : nAvailableOf windowWitness = 1 ∧ windowWitness.snd_wnd = 1 := by decide +kernel

/-- The part of the invariant of DESIGN section 5a proved for ALL histories of ALL public operations with arbitrary
    arguments (notify_packet over all byte strings).
    Missing for the full `C10_inv_preserved`: SendTiling (piece 2), RecvWindow (3), RlistOk (4), StateOk (5), the
    `rto_base` half of TimerOk (6) and therefore `C10_no_fault` (absence of `Fault` in every operation) and
    `C10_respects_window`; these are checked by the correspondence and oracle streams of checks/C10.py only. -/
theorem C10_inv_preserved_partial (conv : UInt32) (ops : List (UInt32 × Op)) (s' : Sock)
    (h : run (Sock.init conv) ops = .ok s') : Inv0 s' :=
  run_inv0 ops _ s' (init_inv0 conv) h

example : Inv0 (Sock.init 3) := init_inv0 3

end Nice.Props.C10
