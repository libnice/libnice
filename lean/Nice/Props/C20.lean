/-
  C20 — gathering completes and reports what the servers confirmed (kernels).
-/
import Nice.Model.Gather
-- the next two for checks/C20.py, which builds this module
import Nice.Props.C20Tick
import Nice.Props.C20Relay
import Nice.Props.C19
namespace Nice.Props.C20
open Nice.Gather

theorem round_done_stays (s : St) (b : Beh) (h : s.item.done = true) : round s b = s := by
  simp [round, h]

theorem run_done_stays (bs : List Beh) : ∀ s : St, s.item.done = true → run s bs = s := by
  induction bs with
  | nil => intro s _; rfl
  | cons b bs ih => intro s h; simp only [run, List.foldl_cons]; rw [round_done_stays s b h]; exact ih s h

/-- a behaviour that ends the item's transaction -/
def Terminal : Beh → Prop
  | .reauth | .alternate => False
  | _ => True

/-- rounds that do not end the transaction are counted and change nothing else -/
theorem run_open (l : List Beh) : ∀ s : St, s.item.done = false → (∀ x ∈ l, ¬ Terminal x) →
    (run s l).item.done = false ∧ (run s l).item.rounds = s.item.rounds + l.length := by
  induction l with
  | nil => intro s h _; exact ⟨h, rfl⟩
  | cons x xs ih =>
    intro s h hx
    have hstep : (round s x).item.done = false ∧ (round s x).item.rounds = s.item.rounds + 1 := by
      have hxx : ¬ Terminal x := hx x (by simp)
      cases x <;> simp [Terminal] at hxx <;> simp [round, h]
    obtain ⟨h1, h2⟩ := ih (round s x) hstep.1 (fun y hy => hx y (by simp [hy]))
    exact ⟨h1, by rw [show run s (x :: xs) = run (round s x) xs from rfl, h2, hstep.2, List.length_cons]; omega⟩

/-- Round count of the plan's `C20_time_bound_partial` (DESIGN 5, C20): if the server answers at most `K` re-authentication /
    redirect rounds before a terminal behaviour, the item is done after at most `K+1` rounds — each
    of which lasts at most one pacing slot plus the full retransmission schedule of C19. -/
theorem C20_bounded_rounds (pre : List Beh) (b : Beh) (post : List Beh)
    (hpre : ∀ x ∈ pre, ¬ Terminal x) (hb : Terminal b) :
    (run {} (pre ++ b :: post)).item.done = true ∧
    (run {} (pre ++ b :: post)).item.rounds = pre.length + 1 := by
  obtain ⟨h1, h2⟩ := run_open pre {} rfl hpre
  have hsplit : run {} (pre ++ b :: post) = run (round (run {} pre) b) post := by
    simp [run, List.foldl_append]
  have hb' : (round (run {} pre) b).item.done = true ∧ (round (run {} pre) b).item.rounds = pre.length + 1 := by
    cases b <;> simp [Terminal] at hb <;> simp [round, h1, h2] <;> rfl
  rw [hsplit, run_done_stays post _ hb'.1]
  exact hb'

/-- **C20_unbounded_reauth.**  Nothing bounds the re-authentication rounds: for every `n` a server
    that keeps answering 438 (or 300) leaves the item not done after `n` rounds — the unrestricted
    time bound of the property does NOT hold for this code (recorded as a known finding). -/
theorem C20_unbounded_reauth (n : Nat) :
    (run {} (List.replicate n Beh.reauth)).item.done = false ∧
    (run {} (List.replicate n Beh.reauth)).item.rounds = n := by
  have := run_open (List.replicate n Beh.reauth) {} rfl fun x hx => by rw [List.eq_of_mem_replicate hx]; exact id
  simpa using this

/-- **C20_candidates_sound.**  Every candidate address in the list was carried by a success answer
    of the script, and no address appears twice. -/
theorem C20_candidates_sound (bs : List Beh) :
    ∀ s : St, s.cands.Nodup → (∀ a ∈ (run s bs).cands, a ∈ s.cands ∨ Beh.success a ∈ bs) ∧ (run s bs).cands.Nodup := by
  induction bs with
  | nil => intro s h; exact ⟨fun a ha => Or.inl ha, h⟩
  | cons b bs ih =>
    intro s hnd
    have hstep : (∀ a ∈ (round s b).cands, a ∈ s.cands ∨ b = Beh.success a) ∧ (round s b).cands.Nodup := by
      unfold round
      split
      · exact ⟨fun a ha => Or.inl ha, hnd⟩
      · cases b <;> simp only <;> try exact ⟨fun a ha => Or.inl ha, hnd⟩
        rename_i addr
        split
        · exact ⟨fun a ha => Or.inl ha, hnd⟩
        · rename_i hc
          refine ⟨?_, ?_⟩
          · intro a ha
            rcases List.mem_append.mp ha with h | h
            · exact Or.inl h
            · simp at h; exact Or.inr (by rw [h])
          · rw [List.nodup_append]
            refine ⟨hnd, by simp, ?_⟩
            intro x hx y hy
            simp at hy; subst hy
            intro hxy; subst hxy
            apply hc; simpa using hx
    obtain ⟨h1, h2⟩ := ih (round s b) hstep.2
    simp only [run, List.foldl_cons] at *
    refine ⟨?_, h2⟩
    intro a ha
    rcases h1 a ha with h | h
    · rcases hstep.1 a h with h' | h'
      · exact Or.inl h'
      · exact Or.inr (by simp [h'])
    · exact Or.inr (by simp [h])

/-- **C20_done_once.**  The completion signal is emitted for exactly the streams whose gathering
    flag was set, and a second call emits nothing. -/
theorem C20_done_once (flags : List Bool) :
    (gatheringDone (gatheringDone flags).1).2 = [] := by
  simp [gatheringDone]
  intro a h
  have := List.mem_zipIdx h
  simp at this

/-- the silent-server case lasts exactly the STUN timer's N transmissions (C19) -/
theorem C20_silent_item_transmissions (now : Nat) (T N : UInt32) (hno : Nice.Props.C19.NoOverflow T N)
    (ps : List Nat) : Nice.Props.C19.countRetr (Nice.Props.C19.run (Nice.Timer.start now T N) ps).2
      ≤ Nice.Props.C19.nEff N - 1 :=
  Nice.Props.C19.retransmit_count_le now T N ps

example : (run {} [.reauth, .success 7, .success 9]).cands = [7] := by decide
example : (run {} [.reauth, .reauth, .hardError]).item = { done := true, rounds := 3 } := by decide
example : gatheringDone [true, false, true] = ([false, false, false], [0, 2]) := by decide

end Nice.Props.C20
