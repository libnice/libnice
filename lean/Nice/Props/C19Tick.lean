/-
  C19 / C01 — the pacing (Ta) timer callback agent/conncheck.c priv_conn_check_tick_agent_locked, proved about the
  skeleton REGENERATED from the source on every run (`Nice.Gen.ConnCheckTick.prog`): for any number of streams and any answers
  of the per-stream functions, the timer source is destroyed (conn_check_stop) and the callback returns FALSE only in a tick in
  which no STUN request was sent and priv_conn_check_tick_stream_nominate reported work for NO stream.  While a stream has a
  transaction in flight (its nominate step answers TRUE) the retransmission timers of every stream keep being polled, so a
  black-holed check is given up after its configured number of transmissions — not left in progress because the LAST stream
  happened to be idle (seeded change C19d).
-/
import Nice.Gen.ConnCheckTick
import Nice.Proofs.FlowEval
namespace Nice.Props.C19Tick
open Nice.Flow Nice.Gen.ConnCheckTick

def hv : Havoc := fun _ _ => [0, 1]

/-- event kind 4 = conn_check_stop; r1 = `stun_sent`, r3 = the nominate step has answered TRUE for some stream in this tick -/
def policy : Policy := fun _ kind σ => kind != 4 || (σ.r1 == 0 && σ.r3 == 0)

def init : List St := [0, 1].flatMap fun a => [0, 1].map fun b => { r0 := a, r1 := b, r2 := 2, r3 := 0 }

def outOk (p : St × Out) : Bool :=
  match p.2 with
  | .ret v => v != 0 || (p.1.r1 == 0 && p.1.r3 == 0)
  | _ => false

theorem summary_ok : (reach hv policy prog init).ok = true ∧ ((reach hv policy prog init).outs.all outOk) = true := by
  rw [reach_ok_eq, reach_all_eq]; decide +kernel

theorem C19_timer_stops_only_without_work {σ0 : St} (h0 : σ0 ∈ init) {tr : List Ev} {σ1 : St} {o : Out}
    (hx : Exec hv prog σ0 tr σ1 o) :
    (∀ e ∈ tr, e.kind = 4 → e.st.r1 = 0 ∧ e.st.r3 = 0) ∧ (o = .ret 0 → σ1.r1 = 0 ∧ σ1.r3 = 0) := by
  constructor
  · intro e he hk
    have hp := events_satisfy_policy summary_ok.1 h0 hx e he
    simp only [policy, hk, bne_self_eq_false, Bool.false_or, Bool.and_eq_true, beq_iff_eq] at hp
    exact hp
  · intro ho
    subst ho
    have := outcomes_satisfy summary_ok h0 hx
    simpa [outOk] using this

/-! non-vacuity: the timer CAN be stopped (idle tick), and a tick with work returns TRUE -/
example : ((reach hv policy prog init).outs.any fun p => p.2 == .ret 0) = true := by rw [reach_any_eq]; decide +kernel
example : ((reach hv policy prog init).outs.any fun p => p.2 == .ret 1 && p.1.r3 == 1) = true := by
  rw [reach_any_eq]; decide +kernel

end Nice.Props.C19Tick
