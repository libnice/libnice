/-
  C13 — the consent gate of the send API, proved about the skeleton of agent/agent.c
  nice_agent_send_messages_nonblocking_internal REGENERATED from the source on every run (`Nice.Gen.SendMessages.prog`,
  tools/extract_flow.py) with the verified analysis of `Nice.Model.Flow`: on every path through the function — datagram
  socket, RFC 4571 framing over ICE-TCP (every frame of every message), pseudo-TCP — application data is handed to a
  transport only while a pair is selected and `selected_pair.remote_consent.have` is set.  (That the flag is cleared by an
  authenticated 403 and by the consent timer is the Consent model + the simulation.)
-/
import Nice.Gen.SendMessages
import Nice.Proofs.FlowEval
namespace Nice.Props.C13Send
open Nice.Flow Nice.Gen.SendMessages

/-- a call outside the translator's `pure` list may leave the two memory locations in either state -/
def hv : Havoc := fun _ _ => [0, 1]

/-- event kind 3 = application data handed to a transport; r0 = a pair is selected, r1 = its consent flag -/
def policy : Policy := fun _ kind σ => kind != 3 || (σ.r0 == 1 && σ.r1 == 1)

def init : List St := [0, 1].flatMap fun p => [0, 1].map fun c => { r0 := p, r1 := c }

theorem analysis_ok : (reach hv policy prog init).ok = true := by rw [reach_ok_eq]; decide +kernel

theorem C13_send_needs_consent {σ0 : St} (h0 : σ0 ∈ init) {tr : List Ev} {σ1 : St} {o : Out}
    (hx : Exec hv prog σ0 tr σ1 o) : ∀ e ∈ tr, e.kind = 3 → e.st.r0 = 1 ∧ e.st.r1 = 1 := by
  intro e he hk
  have hp := events_satisfy_policy analysis_ok h0 hx e he
  simp only [policy, hk, bne_self_eq_false, Bool.false_or, Bool.and_eq_true, beq_iff_eq] at hp
  exact hp

/-! non-vacuity: with a pair and consent a send site is reachable; the policy "never send" fails -/
def neverSend : Policy := fun _ kind _ => kind != 3
example : (reach hv neverSend prog [{ r0 := 1, r1 := 1 }]).ok = false := by rw [reach_ok_eq]; decide +kernel
/-- a state with a pair and no consent sends nothing -/
example : (reach hv neverSend prog [{ r0 := 1, r1 := 0 }]).ok = true := by rw [reach_ok_eq]; decide +kernel

end Nice.Props.C13Send
