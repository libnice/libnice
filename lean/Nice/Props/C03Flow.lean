/-
  C03 — the gate of agent/conncheck.c conn_check_handle_inbound_stun, proved about the skeleton REGENERATED from the
  source on every run (`Nice.Gen.InboundStun.prog`, tools/extract_flow.py) with the verified reachability analysis
  of `Nice.Model.Flow`: for every outcome of every untracked condition, every loop count and every status the
  validation calls may return,

  * a call or store that may change agent state happens only while the last validation status is SUCCESS or
    FORBIDDEN — the two statuses stun_agent_validate returns only after the MESSAGE-INTEGRITY comparison
    succeeded (C04) — so no message of an unauthenticated party creates a candidate, triggers a check, touches the
    role, a pair, a transaction or the component state; such messages cause at most an error reply;
  * when that status was produced by a discovery or refresh STUN agent (which do not hold the stream's
    credentials), the message is a response or an error response, never a request or an indication;
  * the function always returns, and returns FALSE ("not STUN, hand it to the data path") only with the statuses of
    `notConsumedOk`.

  The one assumption about the untracked code is `hv`: stun_agent_validate returns UNMATCHED_RESPONSE only for
  messages of class response / error (theorem `C04_unmatched_is_response` about the validation model).
-/
import Nice.Gen.InboundStun
import Nice.Gen.Consts
import Nice.Proofs.FlowEval
namespace Nice.Props.C03Flow
open Nice.Flow Nice.Gen Nice.Gen.InboundStun

def isResp (c : Nat) : Bool := c == STUN_RESPONSE || c == STUN_ERROR

/-- what a validation call may return in tracked state `σ` (r0 = status of the last validation, r1 = which STUN agent
    produced it: 0 = the component's, 1 = a discovery's, 2 = a refresh's; r3 = class of the message) -/
def hv : Havoc := fun _ σ =>
  statusValues.filter fun v => v != STUN_VALIDATION_UNMATCHED_RESPONSE || isResp σ.r3

def policy : Policy := fun _ kind σ =>
  kind == 1 ||
  ((σ.r0 == STUN_VALIDATION_SUCCESS || σ.r0 == STUN_VALIDATION_FORBIDDEN) && (σ.r1 == 0 || isResp σ.r3))

/-- the function starts with an uninitialised status and any message class -/
def init : List St :=
  statusValues.flatMap fun v => classValues.map fun c => { r0 := v, r1 := 0, r2 := 0, r3 := c }

/-- `return FALSE` ("not STUN: hand the datagram to the data path") is allowed with these statuses only -/
def notConsumedOk (σ : St) : Bool :=
  σ.r0 == STUN_VALIDATION_NOT_STUN || σ.r0 == STUN_VALIDATION_INCOMPLETE_STUN ||
  σ.r0 == STUN_VALIDATION_BAD_REQUEST || σ.r0 == STUN_VALIDATION_UNKNOWN_ATTRIBUTE ||
  (σ.r0 == STUN_VALIDATION_SUCCESS && σ.r3 == STUN_REQUEST)

def outOk (p : St × Out) : Bool :=
  match p.2 with
  | .ret v => v != 0 || notConsumedOk p.1
  | _ => false

theorem summary_ok : (reach hv policy prog init).ok = true ∧ ((reach hv policy prog init).outs.all outOk) = true := by
  rw [reach_ok_eq, reach_all_eq]; decide +kernel

theorem analysis_ok : (reach hv policy prog init).ok = true := summary_ok.1

theorem C03_inbound_effects_need_auth {σ0 : St} (h0 : σ0 ∈ init) {tr : List Ev} {σ1 : St} {o : Out}
    (hx : Exec hv prog σ0 tr σ1 o) :
    ∀ e ∈ tr, e.kind = 0 →
      (e.st.r0 = STUN_VALIDATION_SUCCESS ∨ e.st.r0 = STUN_VALIDATION_FORBIDDEN) := by
  intro e he hk
  have hp := events_satisfy_policy analysis_ok h0 hx e he
  simp only [policy, hk, Bool.or_eq_true, Bool.and_eq_true, beq_iff_eq] at hp
  rcases hp with hp | hp
  · cases hp
  · exact hp.1

theorem C03_discovery_agents_only_validate_responses {σ0 : St} (h0 : σ0 ∈ init) {tr : List Ev} {σ1 : St} {o : Out}
    (hx : Exec hv prog σ0 tr σ1 o) :
    ∀ e ∈ tr, e.kind = 0 → e.st.r1 ≠ 0 → (e.st.r3 = STUN_RESPONSE ∨ e.st.r3 = STUN_ERROR) := by
  intro e he hk hw
  have hp := events_satisfy_policy analysis_ok h0 hx e he
  simp only [policy, hk, Bool.or_eq_true, Bool.and_eq_true, beq_iff_eq, isResp] at hp
  rcases hp with hp | hp
  · cases hp
  · rcases hp.2 with h | h
    · exact absurd h hw
    · exact h

/-- **C03_inbound_consumes_control_traffic.**  The function always ends by `return`; it returns FALSE ("not
    control traffic", the datagram goes on to the source-address gate and the application) only with a status
    NOT_STUN / INCOMPLETE / BAD_REQUEST / UNKNOWN_ATTRIBUTE, or for an authenticated request whose reply could not
    be built.  In particular an unmatched (duplicate, late) response, an unauthorised message and a 403 are
    consumed: ICE control traffic is not handed to the application (C02). -/
theorem C03_inbound_consumes_control_traffic {σ0 : St} (h0 : σ0 ∈ init) {tr : List Ev} {σ1 : St} {o : Out}
    (hx : Exec hv prog σ0 tr σ1 o) : ∃ v, o = .ret v ∧ (v = 0 → notConsumedOk σ1 = true) := by
  have := outcomes_satisfy summary_ok h0 hx
  cases o with
  | ret v =>
    refine ⟨v, rfl, ?_⟩
    intro hv0
    simpa [outOk, hv0] using this
  | _ => simp [outOk] at this

/-! non-vacuity: the gate is passable (an execution with a state-changing event exists), and the analysis
    distinguishes: SUCCESS alone is too strict a policy -/
example : ∃ tr σ1 o, Exec hv (.seq (.seq (.set 1 0) (.havoc 0 1)) (.seq (.ite (.not (.eq 0 0)) (.ret 0) .skip) (.ev 34 0)))
    {} tr σ1 o ∧ ∃ e ∈ tr, e.kind = 0 := by
  refine ⟨_, _, _, .seqN (.seqN (.set 1 0 _) (.havoc (v := 0) (by decide))) (.seqN (.iteF (by decide) (.skip _)) (.ev 34 0 _)), ?_⟩
  exact ⟨_, List.mem_cons_self .., rfl⟩

def weakPolicy : Policy := fun _ kind σ => kind == 1 || σ.r0 == STUN_VALIDATION_SUCCESS
example : (reach hv weakPolicy prog [{ r3 := STUN_ERROR }]).ok = false := by
  rw [reach_ok_eq]; decide +kernel   -- the 403 block acts under FORBIDDEN

end Nice.Props.C03Flow
