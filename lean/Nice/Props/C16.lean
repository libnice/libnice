/-
  C16 — TURN relaying is transparent: payload and peer address survive wrap/unwrap.

  Client model: Nice/Model/Turn.lean (socket/udp-turn.c, DRAFT9 / RFC5766, unreliable base), tied to the
  real code by the `sock turn` differential stream.  Reference relay: Nice/Spec/Relay.lean.
-/
import Nice.Spec.Relay
import Nice.Props.C16Send
namespace Nice.Props.C16
open Nice.Sock Nice.Turn Nice.Relay

theorem be16b_length (n : Nat) : (be16b n).length = 2 := rfl

theorem be16_be16b_append (n : Nat) (h : n < 65536) (rest : Bytes) :
    be16 ((be16b n ++ rest).getD 0 0) ((be16b n ++ rest).getD 1 0) = n := by
  simp only [be16b, List.cons_append, List.nil_append, List.getD_cons_zero, List.getD_cons_succ, be16, UInt8.toNat_ofNat']
  omega

theorem be16_be16b (n : Nat) (h : n < 65536) : be16 ((be16b n).getD 0 0) ((be16b n).getD 1 0) = n := by
  simpa using be16_be16b_append n h []

theorem xorBytes_length (a k : Bytes) : (xorBytes a k).length = a.length := by
  induction a generalizing k with
  | nil => cases k <;> simp [xorBytes]
  | cons x xs ih => cases k with
    | nil => simp [xorBytes]
    | cons y ys => simp [xorBytes, ih]

theorem xorBytes_invol (a k : Bytes) (h : a.length ≤ k.length) : xorBytes (xorBytes a k) k = a := by
  induction a generalizing k with
  | nil => cases k <;> simp [xorBytes]
  | cons x xs ih => cases k with
    | nil => simp at h
    | cons y ys =>
      simp only [xorBytes, List.cons.injEq]
      refine ⟨?_, ih ys (by simpa using h)⟩
      rw [UInt8.xor_assoc, UInt8.xor_self, UInt8.xor_zero]

/-- well-formed peer address: 4 or 16 address bytes according to the family, 16-bit port -/
def PeerAddr.WF (p : PeerAddr) : Prop := p.addr.length = (if p.ipv6 then 16 else 4) ∧ p.port < 65536

/-- padding behind a value of length `n` -/
def padOf (n : Nat) : Nat := (4 - n % 4) % 4

theorem attr_eq (t : Nat) (v : Bytes) : attr t v = be16b t ++ (be16b v.length ++ (v ++ List.replicate (padOf v.length) 0)) := by
  simp [attr, padOf]

theorem attr_length (t : Nat) (v : Bytes) : (attr t v).length = 4 + v.length + padOf v.length := by
  simp [attr_eq, be16b]; omega

/-- `a` under an equation (likewise `msg_fields`, `chan_fields`): callers `generalize` the packet so that `simp` does not expand it -/
theorem attr_fields (t : Nat) (v rest a : Bytes) (ha : a = attr t v ++ rest) (ht : t < 65536) (hv : v.length < 65536) :
    be16 (a.getD 0 0) (a.getD 1 0) = t ∧ be16 (a.getD 2 0) (a.getD 3 0) = v.length ∧
    (a.drop 4).take v.length = v ∧ a.drop (4 + (v.length + padOf v.length)) = rest := by
  subst ha
  have h2 := be16_be16b v.length hv
  refine ⟨?_, ?_, ?_, ?_⟩
  · rw [attr_eq]; simp only [List.append_assoc]; exact be16_be16b_append t ht _
  · rw [attr_eq]; simpa [be16b] using h2
  · rw [attr_eq]; simp [be16b]
  · have : 4 + (v.length + padOf v.length) = (attr t v).length := by rw [attr_length]; omega
    rw [this, List.drop_left]

/-- the relay's attribute walker reads back one attribute written by the client's `attr` -/
theorem attrs_attr (fuel t : Nat) (v rest : Bytes) (ht : t < 65536) (hv : v.length < 65536) :
    attrs (fuel + 1) (attr t v ++ rest) = (attrs fuel rest).map fun r => (t, v) :: r := by
  obtain ⟨h0, h2, htake, hdrop⟩ := attr_fields t v rest _ rfl ht hv
  have hne : (attr t v ++ rest).isEmpty = false := by simp [attr_eq, be16b]
  have hl : (attr t v ++ rest).length = 4 + v.length + padOf v.length + rest.length := by simp [attr_length]
  have c1 : ¬ (4 + v.length + padOf v.length + rest.length < 4) := by omega
  have c2 : ¬ (4 + v.length + padOf v.length + rest.length < 4 + (v.length + padOf v.length)) := by omega
  simp only [attrs, hne, Bool.false_eq_true, ↓reduceIte, hl, h0, h2, ← padOf.eq_1, c1, c2, hdrop, htake]

theorem attr_append_inj (t : Nat) (v v' r r' : Bytes) (ht : t < 65536) (hv : v.length < 65536) (hv' : v'.length < 65536)
    (h : attr t v ++ r = attr t v' ++ r') : v = v' := by
  obtain ⟨_, a2, a3, _⟩ := attr_fields t v r _ rfl ht hv
  obtain ⟨_, b2, b3, _⟩ := attr_fields t v' r' _ h ht hv'
  rw [← a3, a2.symm.trans b2, b3]

theorem msg_fields (ty body txid m : Bytes) (hm : m = ty ++ be16b body.length ++ STUN_MAGIC_COOKIE ++ txid ++ body)
    (hty : ty.length = 2) (ht : txid.length = 12) (hb : body.length < 65536) :
    m.length = 20 + body.length ∧ m.take 2 = ty ∧ (m.drop 4).take 4 = STUN_MAGIC_COOKIE ∧
    be16 (m.getD 2 0) (m.getD 3 0) = body.length ∧ (m.drop 8).take 12 = txid ∧ m.drop 20 = body := by
  subst hm
  obtain ⟨t0, t1, rfl⟩ : ∃ t0 t1, ty = [t0, t1] := by
    match ty, hty with
    | [t0, t1], _ => exact ⟨t0, t1, rfl⟩
  have h3 := be16_be16b body.length hb
  refine ⟨by simp [be16b, STUN_MAGIC_COOKIE, ht]; omega, rfl, by simp [be16b, STUN_MAGIC_COOKIE], by simpa [be16b] using h3, ?_, ?_⟩
  · simp [be16b, STUN_MAGIC_COOKIE]; rw [List.take_left' ht]
  · have : [t0, t1] ++ be16b body.length ++ STUN_MAGIC_COOKIE ++ txid ++ body =
        ([t0, t1] ++ be16b body.length ++ STUN_MAGIC_COOKIE ++ txid) ++ body := by simp
    rw [this, List.drop_left' (by simp [be16b, STUN_MAGIC_COOKIE, ht])]

theorem attrs_two (f t1 t2 : Nat) (v1 v2 : Bytes) (h1 : t1 < 65536) (h2 : t2 < 65536) (hv1 : v1.length < 65536)
    (hv2 : v2.length < 65536) : attrs (f + 3) (attr t1 v1 ++ attr t2 v2) = some [(t1, v1), (t2, v2)] := by
  rw [attrs_attr (f + 2) t1 v1 (attr t2 v2) h1 hv1]
  have e2 := attrs_attr (f + 1) t2 v2 [] h2 hv2
  simp only [List.append_nil] at e2
  rw [e2]
  simp [attrs]

theorem xorPeerValue_length (p : PeerAddr) (txid : Bytes) : (xorPeerValue p txid).length = 4 + p.addr.length := by
  simp only [xorPeerValue, List.length_append, List.length_cons, List.length_nil, xorBytes_length]; rfl

theorem xorPeerValue_le (p : PeerAddr) (txid : Bytes) (hp : PeerAddr.WF p) : (xorPeerValue p txid).length ≤ 20 := by
  rw [xorPeerValue_length, hp.1]; split <;> omega

theorem unxor_xorPeerValue (p : PeerAddr) (txid : Bytes) (hp : PeerAddr.WF p) (ht : txid.length = 12) :
    unxorPeer (xorPeerValue p txid) txid = some p := by
  obtain ⟨ha, hport⟩ := hp
  have hk : (STUN_MAGIC_COOKIE ++ txid).length = 16 := by simp [STUN_MAGIC_COOKIE, ht]
  have hpl : (xorBytes (be16b p.port) STUN_MAGIC_COOKIE).length = 2 := by rw [xorBytes_length]; rfl
  have hvl := xorPeerValue_length p txid
  have hfam : (xorPeerValue p txid).getD 1 0 = (if p.ipv6 then 2 else 1) := by simp [xorPeerValue]
  have hport2 : ((xorPeerValue p txid).drop 2).take 2 = xorBytes (be16b p.port) STUN_MAGIC_COOKIE := by
    simp only [xorPeerValue, List.cons_append, List.nil_append, List.drop_succ_cons, List.drop_zero]
    rw [List.take_left' hpl]
  have haddr : (xorPeerValue p txid).drop 4 = xorBytes p.addr (STUN_MAGIC_COOKIE ++ txid) := by
    have : (xorPeerValue p txid) = ([0, if p.ipv6 then 2 else 1] ++ xorBytes (be16b p.port) STUN_MAGIC_COOKIE) ++
        xorBytes p.addr (STUN_MAGIC_COOKIE ++ txid) := by simp [xorPeerValue]
    rw [this, List.drop_left' (by simp [hpl])]
  have hpi : xorBytes (xorBytes (be16b p.port) STUN_MAGIC_COOKIE) cookie = be16b p.port :=
    xorBytes_invol _ _ (by simp [be16b, STUN_MAGIC_COOKIE])
  have hai : xorBytes (xorBytes p.addr (STUN_MAGIC_COOKIE ++ txid)) (cookie ++ txid) = p.addr :=
    xorBytes_invol _ _ (by rw [hk, ha]; split <;> omega)
  simp only [unxorPeer, hvl, hfam, hport2, haddr, hpi, hai, be16_be16b p.port hport]
  cases hv6 : p.ipv6
  · simp only [hv6, Bool.false_eq_true, ↓reduceIte] at ha
    simp [ha]
    cases p; simp_all
  · simp only [hv6, ↓reduceIte] at ha
    simp [ha]
    cases p; simp_all

/-- **the Send indication reaches the relay intact**: for every well-formed peer (IPv4 / IPv6),
    every payload the 65552-byte send buffer accepts and every transaction id, a standards-following
    relay decodes what the client wrote to exactly that peer address and that payload. -/
theorem C16_wrap_decodes (p : PeerAddr) (data txid m : Bytes) (hp : PeerAddr.WF p) (ht : txid.length = 12)
    (h : sendIndication p data txid = some m) : decodeSend m = some (p, data) := by
  have hv20 := xorPeerValue_le p txid hp
  simp only [sendIndication] at h
  split at h
  · cases h
  · rename_i hfit
    have hm := (Option.some.inj h).symm
    have hd65 : data.length < 65536 := by
      simp only [attr_length, STUN_MAX_MESSAGE_SIZE] at hfit; omega
    generalize hbody : attr 0x0012 (xorPeerValue p txid) ++ attr 0x0013 data = body at hm
    have hbl : body.length < 65536 := by
      rw [← hbody]
      simp only [List.length_append, attr_length, STUN_MAX_MESSAGE_SIZE, padOf] at hfit ⊢; omega
    obtain ⟨hml, h1, h2, h3, h4, h5⟩ := msg_fields [0x00, 0x16] body txid m hm rfl ht hbl
    have hat : attrs (20 + body.length + 1) body = some [(0x0012, xorPeerValue p txid), (0x0013, data)] := by
      have : 20 + body.length + 1 = (18 + body.length) + 3 := by omega
      rw [this, ← hbody]
      exact attrs_two _ 0x0012 0x0013 _ _ (by decide) (by decide) (by omega) hd65
    have c2 : ¬ (20 + body.length < 20) := by omega
    simp only [decodeSend, h1, h2, h3, h4, h5, hml, hat]
    simp [c2, lookup, unxor_xorPeerValue p txid hp ht, cookie, STUN_MAGIC_COOKIE]

/-- non-vacuity: an IPv6 peer and a 5-byte payload -/
example : PeerAddr.WF { ipv6 := true, addr := [0x20, 0x01, 0x0d, 0xb8, 0, 0, 0, 0, 0, 0, 0, 0, 0, 0, 0, 2], port := 3333 } := by
  simp [PeerAddr.WF]
example : decodeSend ((sendIndication { ipv6 := false, addr := [10, 1, 1, 1], port := 1111 } [104, 101, 108, 108, 111]
    (List.replicate 12 7)).getD []) = some ({ ipv6 := false, addr := [10, 1, 1, 1], port := 1111 }, [104, 101, 108, 108, 111]) := by
  decide

theorem findSome_range_first {β : Type} (f : Nat → Option β) (n i : Nat) (y : β) (hi : i < n) (hfi : f i = some y)
    (hbefore : ∀ j, j < i → f j = none) : (List.range n).findSome? f = some y := by
  induction n with
  | zero => omega
  | succ n ih =>
    rw [List.range_succ, List.findSome?_append]
    by_cases hin : i < n
    · rw [ih hin]; rfl
    · have : i = n := by omega
      subst this
      have hnone : (List.range i).findSome? f = none := by
        rw [List.findSome?_eq_none_iff]
        intro x hx
        exact hbefore x (List.mem_range.mp hx)
      simp [hnone, hfi]

/-- **what the relay forwards is handed up intact**: for any table of well-formed
    peers, the Data indication a standards-following relay builds for a datagram from the peer at index
    `i` (its first occurrence in the table) parses back, in the client, to that index and exactly the
    payload — IPv4 / IPv6, every payload up to 65000 bytes (any bound keeping the body below 65536 would do),
    every transaction id. -/
theorem C16_unwrap_inverse (peers : List PeerAddr) (i : Nat) (p : PeerAddr) (data txid : Bytes)
    (hi : peers[i]? = some p) (hwf : ∀ q ∈ peers, PeerAddr.WF q) (hfirst : ∀ j, j < i → peers[j]? ≠ some p)
    (ht : txid.length = 12) (hd : data.length ≤ 65000) :
    parseDataIndication peers (forwardData p data txid) = some (i, data) := by
  have hp : PeerAddr.WF p := hwf p (List.mem_of_getElem? hi)
  have hvl := fun q hq => xorPeerValue_le q txid hq
  generalize hm : forwardData p data txid = m
  generalize hbody : attr 0x0012 (xorPeerValue p txid) ++ attr 0x0013 data = body at *
  have hbl : body.length < 65536 := by
    have := hvl p hp
    rw [← hbody]; simp only [List.length_append, attr_length, padOf]; omega
  obtain ⟨-, h1, h2, h3, h4, h5⟩ := msg_fields [0x00, 0x17] body txid m (by rw [← hm, ← hbody]; rfl) rfl ht hbl
  obtain ⟨h8, h9, h10, -⟩ := attr_fields 0x0013 data [] _ (List.append_nil _).symm (by decide) (by omega)
  simp only [parseDataIndication, h1, h2, h3, h4, h5, bne_self_eq_false, Bool.false_eq_true, Bool.or_self, ↓reduceIte]
  obtain ⟨hilt, -⟩ := List.getElem?_eq_some_iff.mp hi
  apply findSome_range_first _ peers.length i (i, data) hilt
  · have h6 : body.take (attr 0x0012 (xorPeerValue p txid)).length = attr 0x0012 (xorPeerValue p txid) := by
      rw [← hbody, List.take_left' rfl]
    have h7 : body.drop (attr 0x0012 (xorPeerValue p txid)).length = attr 0x0013 data := by
      rw [← hbody, List.drop_left' rfl]
    have h8' : (attr 0x0013 data).take 2 = [0x00, 0x13] := by simp [attr_eq, be16b]
    simp only [hi, h6, h7, h8', h9, h10, bne_self_eq_false, Bool.false_eq_true, ↓reduceIte, beq_self_eq_true, Bool.and_self]
  · -- no earlier entry matches: an attribute that heads the body is the address attribute written there
    intro j hj
    cases hpj : peers[j]? with
    | none => rfl
    | some q =>
      simp only
      have hq : PeerAddr.WF q := hwf q (List.mem_of_getElem? hpj)
      by_cases hpre : body.take (attr 0x0012 (xorPeerValue q txid)).length = attr 0x0012 (xorPeerValue q txid)
      · have hb := List.take_append_drop (attr 0x0012 (xorPeerValue q txid)).length body
        rw [hpre, ← hbody] at hb
        have hval := attr_append_inj 0x0012 _ _ _ _ (by decide) (by have := hvl q hq; omega) (by have := hvl p hp; omega) hb
        -- the relay's decoding is a left inverse
        have hqp : q = p := Option.some.inj
          ((unxor_xorPeerValue q txid hq ht).symm.trans (hval ▸ unxor_xorPeerValue p txid hp ht))
        exact absurd (by rw [hpj, hqp]) (hfirst j hj)
      · simp [hpre]

/-- the driver's table (IPv4, IPv4, IPv6, IPv4 with another port): the third peer is recognised -/
example :
    let peers : List PeerAddr := [{ ipv6 := false, addr := [10, 1, 1, 1], port := 1111 }, { ipv6 := false, addr := [10, 1, 1, 2], port := 2222 },
      { ipv6 := true, addr := [0x20, 0x01, 0x0d, 0xb8, 0, 0, 0, 0, 0, 0, 0, 0, 0, 0, 0, 2], port := 3333 },
      { ipv6 := false, addr := [10, 1, 1, 1], port := 1112 }]
    parseDataIndication peers (forwardData { ipv6 := true, addr := [0x20, 0x01, 0x0d, 0xb8, 0, 0, 0, 0, 0, 0, 0, 0, 0, 0, 0, 2], port := 3333 }
      [1, 2, 3] (List.replicate 12 9)) = some (2, [1, 2, 3]) := by decide

theorem chan_fields (chan : Nat) (data m : Bytes) (hm : m = be16b chan ++ be16b data.length ++ data)
    (hc : chan < 65536) (hd : data.length < 65536) :
    m.length = 4 + data.length ∧ be16 (m.getD 0 0) (m.getD 1 0) = chan ∧
    be16 (m.getD 2 0) (m.getD 3 0) = data.length ∧ (m.drop 4).take data.length = data := by
  subst hm
  refine ⟨by simp [be16b]; omega, ?_, ?_, by simp [be16b]⟩
  · simp only [List.append_assoc]; exact be16_be16b_append chan hc _
  · simpa [be16b] using be16_be16b data.length hd

/-- **ChannelData reaches the relay intact**: for every channel in the TURN range and every payload
    a 16-bit length can describe, the relay reads back exactly (channel, payload). -/
theorem C16_channeldata_decodes (chan : Nat) (data : Bytes) (hc : 0x4000 ≤ chan ∧ chan ≤ 0x7FFF) (hd : data.length < 65536) :
    decodeChannelData (channelData chan data) = some (chan, data) := by
  have hcd : channelData chan data = be16b chan ++ be16b data.length ++ data := by
    simp [channelData, Nat.mod_eq_of_lt hd]
  obtain ⟨hl, h1, h2, h3⟩ := chan_fields chan data _ hcd (by omega) hd
  have c3 : (decide (chan < 0x4000) || decide (chan > 0x7FFF) || decide (4 + data.length < 4 + data.length)) = false := by
    simp; omega
  simp only [decodeChannelData, h1, h2, hl, h3, show ¬ (4 + data.length < 4) by omega, ↓reduceIte, c3, Bool.false_eq_true]

/-- **ChannelData from the relay is handed up intact**: on a bound channel, payload and peer come
    back exactly and no read leaves the packet. -/
theorem C16_unwrap_channeldata (s : St) (chan peer : Nat) (data : Bytes) (src : Option Nat) (hf : s.fault = false)
    (hstd : s.compat ≠ .google)
    (hb : s.channels.find? (·.2 == chan) = some (peer, chan)) (hc : chan < 65536) (hd : data.length < 65536) :
    unwrapData s (forwardChannel chan data) src = ((some peer, data), s) := by
  obtain ⟨hl, h1, h2, h3⟩ := chan_fields chan data (forwardChannel chan data) rfl hc hd
  have hie : s.channels.isEmpty = false := by
    cases hcs : s.channels with
    | nil => rw [hcs] at hb; simp at hb
    | cons c0 cs => rfl
  have c3 : min data.length (4 + data.length - 4) = data.length := by omega
  have hng : (s.compat == Compat.google) = false := by simpa using hstd
  simp only [unwrapData, hng, hie, Bool.false_eq_true, Bool.false_or, decide_eq_true_eq, ↓reduceIte, hl, h1, h2,
    hb, show ¬ (4 + data.length < 4) by omega, c3, show ¬ (4 + data.length > 4 + data.length) by omega, h3]

/-- **FIFO**: what is held for a peer is appended at the tail of that peer's queue; other queues
    are untouched. -/
theorem C16_queue_fifo (q : List (Nat × List (Bytes × Bool))) (peer : Nat) (m : Bytes) (rel : Bool)
    (items : List (Bytes × Bool)) (h : q.find? (·.1 == peer) = some (peer, items)) :
    (enqueue q peer m rel).find? (·.1 == peer) = some (peer, items ++ [(m, rel)]) := by
  have hany : q.any (·.1 == peer) = true :=
    List.any_eq_true.mpr ⟨(peer, items), List.mem_of_find?_eq_some h, by simp⟩
  -- the update keeps every key, so looking the peer up commutes with it
  have hkey : ((·.1 == peer) ∘ fun (e : Nat × List (Bytes × Bool)) => if e.1 == peer then (e.1, e.2 ++ [(m, rel)]) else e) =
      (·.1 == peer) := by
    funext e; simp only [Function.comp]; split <;> rfl
  simp only [enqueue, hany, ↓reduceIte, List.find?_map, hkey, h, Option.map_some, beq_self_eq_true]

/-- `socket_dequeue_all_data` for any queue: an item held for a RELIABLE send is dropped (the UDP base
    refuses it and the return value is not looked at) -/
theorem dequeueAll_held (s : St) (peer : Nat) (items : List (Bytes × Bool))
    (h : s.queues.find? (·.1 == peer) = some (peer, items)) :
    (dequeueAll s peer).2 = (items.filter (fun it => !it.2)).map (fun it => Down.raw it.1) ∧
    (dequeueAll s peer).1.queues.find? (·.1 == peer) = none := by
  simp only [dequeueAll, h]
  constructor
  · clear h
    induction items with
    | nil => rfl
    | cons it rest ih => cases hr : it.2 <;> simpa [baseSend, hr] using ih
  · rw [List.find?_eq_none]
    intro x hx
    simp only [List.mem_filter, bne_iff_ne, ne_eq] at hx
    simp [hx.2]

/-- **held, not lost**: when the permission is installed the whole queue of that peer goes to the
    base socket, every element, in the order it was queued, and the queue is gone. -/
theorem C16_held_not_lost (s : St) (peer : Nat) (items : List (Bytes × Bool))
    (h : s.queues.find? (·.1 == peer) = some (peer, items)) (hu : ∀ it ∈ items, it.2 = false) :
    (dequeueAll s peer).2 = items.map (fun it => Down.raw it.1) ∧
    (dequeueAll s peer).1.queues.find? (·.1 == peer) = none := by
  have hall : items.filter (fun it => !it.2) = items := List.filter_eq_self.mpr (fun it hit => by simp [hu it hit])
  simpa [hall] using dequeueAll_held s peer items h

theorem cpTimeout_eq (s : St) (seq peer : Nat) :
    cpTimeout s seq peer =
      dequeueAll { s with cpReqs := markUsed s.cpReqs seq, sentPerms := s.sentPerms.filter (· != peer),
                          pendPerms := s.pendPerms.filter (· != seq), perms := s.perms ++ [peer] } peer := rfl

/-- … **or timed out**: when the CreatePermission request runs out of retransmissions
    (`priv_retransmissions_create_permission_tick_unlocked`, TIMEOUT branch) the permission is assumed
    and the same complete, in-order flush happens. -/
theorem C16_timeout_flushes (s : St) (seq peer : Nat) (items : List (Bytes × Bool))
    (h : s.queues.find? (·.1 == peer) = some (peer, items)) (hu : ∀ it ∈ items, it.2 = false) :
    (cpTimeout s seq peer).2 = items.map (fun it => Down.raw it.1) ∧
    (cpTimeout s seq peer).1.queues.find? (·.1 == peer) = none ∧
    peer ∈ (cpTimeout s seq peer).1.perms := by
  rw [cpTimeout_eq]
  exact and_assoc.mp ⟨C16_held_not_lost _ peer items h hu, by simp [dequeueAll, h]⟩

/-- non-vacuity of the time-out path on the clock: 500 + 1000 + 500 ms after the request, the held
    payload goes out -/
example :
    let s0 : St := { compat := .rfc5766, peers := [{ ipv6 := false, addr := [10, 1, 1, 1], port := 1111 }] }
    let s1 := (send s0 0 [[1, 2]] false).2
    let s2 := (advance (advance (advance s1 500).2 1000).2 499).2
    (s2.queues.map fun e => e.2.length) = [1] ∧ (advance s2 1).1.down.length = 1 ∧ (advance s2 1).2.perms = [0] := by
  decide

/-- non-vacuity: two sends without permission are held in order and flushed in order -/
example :
    let s0 : St := { compat := .rfc5766, peers := [{ ipv6 := false, addr := [10, 1, 1, 1], port := 1111 }] }
    let s1 := (send s0 0 [[1, 2]] false).2
    let s2 := (send s1 0 [[3]] false).2
    (s2.queues.map fun e => e.2.length) = [2] ∧ ((replyCp { s2 with cached := true } 0 .e400).1.down.length = 2) := by
  decide

theorem sendCreatePermission_down (s : St) (p : Nat) :
    ∃ a d, (sendCreatePermission s p).2.2 = Down.cp s.cpReqs.length p a :: d := by
  unfold sendCreatePermission
  split <;> exact ⟨_, _, rfl⟩

theorem markUsed_length (rs : List Req) (seq : Nat) : (markUsed rs seq).length = rs.length := by
  simp [markUsed]

/-- any answer asking for credentials (438; 401 to a request without) to a live pending request is followed by a fresh one -/
theorem replyCp_retry (s : St) (seq : Nat) (r : Req) (c : Code)
    (hr : s.cpReqs.find? (·.seq == seq) = some r) (hv : validates r c = true) (hre : retryWithAuth r c = true)
    (hp : s.pendPerms.contains seq = true) :
    ∃ a d, (replyCp s seq c).1.down = Down.cp s.cpReqs.length r.peer a :: d := by
  obtain ⟨a, d, h⟩ := sendCreatePermission_down
    { s with cpReqs := markUsed s.cpReqs seq, pendPerms := s.pendPerms.filter (· != seq), cached := true } r.peer
  refine ⟨a, d, ?_⟩
  simp only [markUsed_length] at h
  have hp' : seq ∈ s.pendPerms := by simpa using hp
  simpa [replyCp, hr, hv, hre, hp'] using h

/-- **438 never counts as "answered"**: whatever the request carried (REALM or not), a 438 Stale
    Nonce answer to a live CreatePermission request makes the socket repeat the request for the same
    peer (a fresh transaction, first thing written), instead of pretending the permission exists
    (`nice_udp_turn_socket_parse_recv`, `code == STUN_ERROR_STALE_NONCE || (401 && other realm)`). -/
theorem C16_stale_nonce_reauthenticates (s : St) (seq : Nat) (r : Req)
    (hr : s.cpReqs.find? (·.seq == seq) = some r) (hv : r.valid = true) (hp : s.pendPerms.contains seq = true) :
    ∃ a d, (replyCp s seq .e438).1.down = Down.cp s.cpReqs.length r.peer a :: d :=
  replyCp_retry s seq r .e438 hr (by simp [validates, hv]) rfl hp

/-- non-vacuity, and the data stays held: an authenticated request answered 438 → one new request,
    nothing released, the two payloads still queued; the next success releases both -/
example :
    let s0 : St := { compat := .rfc5766, peers := [{ ipv6 := false, addr := [10, 1, 1, 1], port := 1111 }], cached := true }
    let s1 := (send s0 0 [[1, 2]] false).2
    let s2 := (send s1 0 [[3]] false).2
    let r := replyCp s2 0 .e438
    r.1.down = [Down.cp 1 0 true] ∧ (r.2.queues.map fun e => e.2.length) = [2] ∧ r.2.perms = [] ∧
      (replyCp r.2 1 .ok).1.down.length = 2 := by
  decide

/-- **no relay datagram makes the socket read outside the received packet** (55a791e): for every packet `b` from any source, any set of bound channels — runts and lying
    length fields included — the ChannelData / pass-through path of `nice_udp_turn_socket_parse_recv`
    raises no fault, and what it hands up is a sub-range of the packet. -/
theorem C16_recv_no_fault (s : St) (b : Bytes) (src : Option Nat) (hf : s.fault = false) :
    (unwrapData s b src).2.fault = false ∧
    ((unwrapData s b src).1.2 = b ∨
      ∃ n, 4 + n ≤ b.length ∧ (unwrapData s b src).1.2 = (b.drop 4).take n) := by
  by_cases hg : (s.compat == Compat.google) = true
  · simp only [unwrapData, hg, ↓reduceIte]
    cases s.channels with
    | nil => exact ⟨hf, Or.inl rfl⟩
    | cons c cs => exact ⟨hf, Or.inl rfl⟩
  have hng : (s.compat == Compat.google) = false := by simpa using hg
  by_cases hie : (s.channels.isEmpty || decide (b.length < 4)) = true
  · simp [unwrapData, hng, hie, hf]
  · have hie' : (s.channels.isEmpty || decide (b.length < 4)) = false := by simpa using hie
    simp only [unwrapData, hng, hie', Bool.false_eq_true, ↓reduceIte]
    have h4 : 4 ≤ b.length := by
      simp only [Bool.or_eq_false_iff, decide_eq_false_iff_not] at hie'; omega
    cases hfind : List.find? (fun x => x.2 == be16 (b.getD 0 0) (b.getD 1 0)) s.channels with
    | none => exact ⟨hf, Or.inl rfl⟩
    | some pc =>
      have c3 : ¬ (4 + min (be16 (b.getD 2 0) (b.getD 3 0)) (b.length - 4) > b.length) := by omega
      simp only [c3, ↓reduceIte]
      exact ⟨hf, Or.inr ⟨min (be16 (b.getD 2 0) (b.getD 3 0)) (b.length - 4), by omega, rfl⟩⟩

/-- channel 0x4000 bound and the 6-byte packet `40 00 ff ff 61 62`, whose length field lies
    (corpus/C16/channeldata_len.ops): the two bytes that are there are handed up, nothing else is read -/
example :
    unwrapData { compat := .rfc5766, peers := [], channels := [(0, 0x4000)] } [0x40, 0, 0xff, 0xff, 0x61, 0x62] none =
      ((some 0, [0x61, 0x62]), { compat := .rfc5766, peers := [], channels := [(0, 0x4000)] }) := by
  decide

end Nice.Props.C16
