/-
  C02 — application data arrives intact (kernels): copy helpers and the ICE-TCP frame split.
  Demultiplexing (control vs data) is in Nice.Props.C03 (C03_control_only_if_stun, C03_lookalike_delivered);
  reliable-mode byte stream = C08; RFC 4571 reassembly = C17.
-/
import Nice.Proofs.Scatter
-- `checks/C02.py` (MODULE = this one) audits C03 and C02Iter theorems through these
import Nice.Props.C03
import Nice.Props.C02Iter
namespace Nice.Props.C02
open Nice.Copy

theorem totalSize_eq (m : List Buf) : totalSize m = m.flatten.length := by
  induction m with
  | nil => rfl
  | cons b bs ih => simp [totalSize, List.length_flatten] at *

/-- Compacting the first `n` bytes of a scatter message gives exactly
    the first `n` bytes of the concatenated buffers, for every buffer layout (empty buffers included). -/
theorem C02_compact_exact (m : List Buf) : ∀ n, compact m n = m.flatten.take n := by
  induction m with
  | nil => intro n; simp [compact]
  | cons b bs ih =>
    intro n
    have := take_drop_append b bs.flatten 0 n (Nat.zero_le _)
    simp only [List.drop_zero, Nat.sub_zero] at this
    simp only [compact, ih, List.flatten_cons, this, Nat.min_comm]

/-- Copying `data` into a message with the given buffer sizes writes a
    prefix of `data`, reports its exact length, and loses nothing while space is left. -/
theorem C02_scatter_exact (sizes : List Nat) : ∀ data : Buf,
    (scatter sizes data).1.flatten = data.take (scatter sizes data).2 ∧
    (scatter sizes data).2 = min sizes.sum data.length := by
  induction sizes with
  | nil => intro data; simp [scatter]
  | cons sz szs ih =>
    intro data
    by_cases he : data.isEmpty = true
    · have : data = [] := List.isEmpty_iff.mp he
      subst this; simp [scatter]
    · obtain ⟨h1, h2⟩ := ih (data.drop (min sz data.length))
      have hs : scatter (sz :: szs) data =
          (data.take (min sz data.length) :: (scatter szs (data.drop (min sz data.length))).1,
           min sz data.length + (scatter szs (data.drop (min sz data.length))).2) := by
        simp [scatter, he]
      rw [hs]
      simp only [List.flatten_cons, h1, h2, List.length_drop, List.sum_cons]
      constructor
      · rw [List.take_add]
      · omega

/-- receive-side round trip: what `compact` reads back from the scattered buffers is the data -/
theorem C02_scatter_compact_roundtrip (sizes : List Nat) (data : Buf) (h : data.length ≤ sizes.sum) :
    compact (scatter sizes data).1 (scatter sizes data).2 = data := by
  obtain ⟨h1, h2⟩ := C02_scatter_exact sizes data
  rw [C02_compact_exact, h1, h2]
  have : min sizes.sum data.length = data.length := by omega
  rw [this]; simp

/-- one frame is exactly the next `n` bytes of the concatenated message from `o` -/
theorem gather_eq (m : List Buf) : ∀ o n, gather m o n = (m.flatten.drop o).take n :=
  gather_take_drop m

theorem splitLoop_flatten (m : List Buf) : ∀ fuel offset remaining, remaining < fuel →
    offset + remaining = m.flatten.length →
    (splitLoop m fuel offset remaining).flatten = m.flatten.drop offset ∧
    (∀ f ∈ splitLoop m fuel offset remaining, f.length ≤ frameLimit ∧ 0 < f.length) := by
  intro fuel
  induction fuel with
  | zero => intro o r h; omega
  | succ k ih =>
    intro o r hlt htot
    unfold splitLoop
    by_cases hr : r = 0
    · have : m.flatten.drop o = [] := List.drop_eq_nil_of_le (by omega)
      simp [hr, this]
    · simp only [hr, if_false]
      have hp : 0 < min r frameLimit := by unfold frameLimit; omega
      obtain ⟨h1, h2⟩ := ih (o + min r frameLimit) (r - min r frameLimit) (by omega) (by omega)
      refine ⟨?_, ?_⟩
      · rw [List.flatten_cons, h1, gather_eq]
        rw [← List.drop_drop]
        exact List.take_append_drop _ _
      · intro f hf
        rcases List.mem_cons.mp hf with rfl | hf
        · rw [gather_eq]
          simp only [List.length_take, List.length_drop]
          constructor <;> omega
        · exact h2 f hf

/-- For every message and every split of it over buffers
    (zero-length buffers included) the frames handed to the socket are non-empty, at most 0xF800 bytes
    each, and their concatenation in order is the message: nothing dropped, duplicated or reordered. -/
theorem C02_frames_concat (m : List Buf) :
    (splitFrames m).flatten = m.flatten ∧ ∀ f ∈ splitFrames m, f.length ≤ 0xF800 ∧ 0 < f.length := by
  unfold splitFrames
  have := splitLoop_flatten m (totalSize m + 1) 0 (totalSize m) (by omega) (by rw [totalSize_eq]; omega)
  simpa [frameLimit] using this

/-- control-vs-data demultiplexing (re-exported): lookalike payloads are delivered -/
theorem C02_demux (len : Nat) (fast full : Int) (status : Nat)
    (h : ¬ (fast = len ∧ full = len ∧ Nice.Gate.handled (Nice.Gate.gate status) = true)) :
    Nice.Gate.demux len fast full status true = .deliver :=
  Nice.Props.C03.C03_lookalike_delivered len fast full status h

example : gather [[1, 2, 3], [], [4, 5]] 2 3 = [3, 4, 5] := by decide
example : (scatter [2, 0, 5] [9, 8, 7, 6]) = ([[9, 8], [], [7, 6]], 4) := by decide
example : compact [[1, 2], [], [3]] 3 = [1, 2, 3] := by decide

end Nice.Props.C02
