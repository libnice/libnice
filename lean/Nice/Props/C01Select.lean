/-
  C01 — the selected pair is the highest-priority nominated pair, whatever the order in which nominations are
  processed, and the two agents give a pair and its mirror image the same priority: so, when both have processed the
  same set of (mirrored) nominations and candidate priorities are agreed, their selected pairs are mirror images.
  The guard and the role-dependent argument order are regenerated from the source (Nice/Gen/Select.lean).
  Namespace `Nice.Props.C01`, as in Props/C01.lean, which imports this module.
-/
import Nice.Model.Select
namespace Nice.Props.C01
open Nice.Select Nice.Gen

theorem nominate_prio (s : Sel) (x : Nat × Nat) : (nominate s x).prio = max s.prio x.2 := by
  unfold nominate selected_pair_replaces
  by_cases h : x.2 > s.prio
  · simp [h]; omega
  · simp [h]; omega

theorem foldl_prio (l : List (Nat × Nat)) : ∀ s : Sel, (l.foldl nominate s).prio = l.foldl (fun m x => max m x.2) s.prio := by
  induction l with
  | nil => intro s; rfl
  | cons x xs ih => intro s; simp only [List.foldl_cons, ih, nominate_prio]

theorem foldl_max_ge (l : List (Nat × Nat)) : ∀ m : Nat, m ≤ l.foldl (fun m x => max m x.2) m ∧
    ∀ x ∈ l, x.2 ≤ l.foldl (fun m x => max m x.2) m := by
  induction l with
  | nil => intro m; simp
  | cons y ys ih =>
    intro m
    simp only [List.foldl_cons]
    obtain ⟨h1, h2⟩ := ih (max m y.2)
    refine ⟨by omega, ?_⟩
    intro x hx
    simp only [List.mem_cons] at hx
    rcases hx with rfl | hx
    · omega
    · exact h2 x hx

/-- **C01_selected_is_max_nominated.**  After any sequence of nominations the selected priority is the maximum of
    the nominated priorities: the selected pair is only ever replaced by a higher-priority nominated pair. -/
theorem C01_selected_is_max_nominated (l : List (Nat × Nat)) :
    (run l).prio = l.foldl (fun m x => max m x.2) 0 ∧ ∀ x ∈ l, x.2 ≤ (run l).prio := by
  unfold run
  rw [foldl_prio]
  exact ⟨rfl, (foldl_max_ge l 0).2⟩

/-- nothing replaced `s`, or the selected id was nominated in `l` with the selected priority -/
theorem foldl_id (l : List (Nat × Nat)) : ∀ s : Sel,
    ((l.foldl nominate s).id = s.id ∧ (l.foldl nominate s).prio = s.prio) ∨
    (∃ i, (l.foldl nominate s).id = some i ∧ (i, (l.foldl nominate s).prio) ∈ l) := by
  induction l with
  | nil => intro s; left; exact ⟨rfl, rfl⟩
  | cons x xs ih =>
    intro s
    simp only [List.foldl_cons]
    by_cases h : selected_pair_replaces x.2 s.prio = true
    · have hn : nominate s x = { prio := x.2, id := some x.1 } := by simp [nominate, h]
      rcases ih (nominate s x) with ⟨h1, h2⟩ | ⟨i, h1, h2⟩
      · right
        refine ⟨x.1, by rw [h1, hn], ?_⟩
        rw [h2, hn]; simp
      · right; exact ⟨i, h1, List.mem_cons_of_mem _ h2⟩
    · have hn : nominate s x = s := by simp [nominate, h]
      rw [hn]
      rcases ih s with h1 | ⟨i, h1, h2⟩
      · left; exact h1
      · right; exact ⟨i, h1, List.mem_cons_of_mem _ h2⟩

theorem C01_selected_was_nominated (l : List (Nat × Nat)) (i : Nat) (h : (run l).id = some i) :
    (i, (run l).prio) ∈ l := by
  unfold run at h ⊢
  rcases foldl_id l {} with ⟨h1, _⟩ | ⟨j, h1, h2⟩
  · rw [h1] at h; cases h
  · rw [h1] at h; cases h; exact h2

theorem run_id_some_of_pos (l : List (Nat × Nat)) (x : Nat × Nat) (hx : x ∈ l) (hp : 0 < x.2) :
    ∃ i, (run l).id = some i := by
  have hmax := (C01_selected_is_max_nominated l).2 x hx
  unfold run at hmax ⊢
  rcases foldl_id l {} with ⟨_, h2⟩ | ⟨j, h1, _⟩
  · rw [h2] at hmax; simp at hmax; omega
  · exact ⟨j, h1⟩

/-- **C01_selection_order_independent.**  If distinct nominated pairs have distinct, positive priorities, the
    selected pair does not depend on the order (or multiplicity) in which the nominations were processed: two lists
    with the same members select the same pair.  (This is what lets the two agents, which see the nominations in
    different orders, agree.) -/
theorem C01_selection_order_independent (l l' : List (Nat × Nat))
    (hmem : ∀ x, x ∈ l ↔ x ∈ l')
    (hinj : ∀ x ∈ l, ∀ y ∈ l, x.2 = y.2 → x.1 = y.1)
    (hpos : ∀ x ∈ l, 0 < x.2) :
    run l = run l' := by
  cases l with
  | nil =>
    cases l' with
    | nil => rfl
    | cons y ys => exact absurd ((hmem y).mpr (List.mem_cons_self)) (by simp)
  | cons x0 xs =>
    have hx0 : x0 ∈ x0 :: xs := List.mem_cons_self
    obtain ⟨i, hi⟩ := run_id_some_of_pos (x0 :: xs) x0 hx0 (hpos x0 hx0)
    obtain ⟨j, hj⟩ := run_id_some_of_pos l' x0 ((hmem x0).mp hx0) (hpos x0 hx0)
    have mi := C01_selected_was_nominated _ i hi
    have mj := C01_selected_was_nominated _ j hj
    have mj' := (hmem _).mpr mj
    have mi' := (hmem _).mp mi
    have h1 := (C01_selected_is_max_nominated (x0 :: xs)).2 _ mj'
    have h2 := (C01_selected_is_max_nominated l').2 _ mi'
    simp only at h1 h2
    have hp : (run (x0 :: xs)).prio = (run l').prio := by omega
    have hij : i = j := hinj _ mi _ mj' hp
    have : ∀ a b : Sel, a.prio = b.prio → a.id = b.id → a = b := by
      intro a b h1 h2; cases a; cases b; simp_all
    exact this _ _ hp (by rw [hi, hj, hij])

/-- **C01_mirror_priority_gen.**  The controlling agent's priority for (its local L, remote R) equals the controlled
    agent's priority for the mirror image (its local R, remote L) — provided they agree on the two candidates'
    priorities (peer-reflexive candidates learnt with a different PRIORITY value break exactly this hypothesis: known
    finding C01/K2). -/
theorem C01_mirror_priority_gen (pL pR : UInt32) : pairPrio true pL pR = pairPrio false pR pL := by
  simp [pairPrio, agent_candidate_pair_priority]

example : run [(1, 50), (2, 70), (3, 60)] = { prio := 70, id := some 2 } := by decide
example : run [(3, 60), (2, 70), (1, 50), (2, 70)] = run [(1, 50), (2, 70), (3, 60)] := by decide
example : pairPrio true 2130706431 1694498815 = pairPrio false 1694498815 2130706431 := by decide

end Nice.Props.C01
