import Nice.Gen.Kernels
/-! # C02: the receive iterator's bookkeeping (regenerated kernels)

`nice_input_message_iter_get_n_valid_messages` and `nice_input_message_iter_is_at_end` are REGENERATED from
agent/agent.c on every run (`tools/extract.py` FIELD_KERNELS: the function's own body with the fields of `*iter`
as parameters).  Both receive paths — `pseudo_tcp_socket_recv_messages` and
`nice_agent_recv_messages_blocking_or_nonblocking` — report to the caller how many messages hold data through the
first one; a message that is counted as empty is handed back as "would block" although its bytes have already
been taken off the stream (seeded change C02g). -/
namespace Nice.Props.C02Iter
open Nice.Gen

/-- **a message that holds any byte is counted**: once the iterator has moved off the start of message `m`
    (a whole buffer was filled, `buffer > 0`, or the current buffer is partly filled, `offset > 0`) the number of
    valid messages includes it. -/
theorem C02_partly_filled_message_counts (m b : UInt32) (o : UInt64) (h : b ≠ 0 ∨ o ≠ 0) :
    iter_n_valid_messages m b o = m + 1 := by
  unfold iter_n_valid_messages
  rcases h with h | h <;> simp [h]

/-- … and an untouched one is not -/
theorem C02_untouched_message_not_counted (m : UInt32) : iter_n_valid_messages m 0 0 = m := by
  simp [iter_n_valid_messages]

theorem C02_full_means_all_counted (m b : UInt32) (o : UInt64) (n : UInt32) (h : iter_is_at_end m b o n ≠ 0) :
    iter_n_valid_messages m b o = n := by
  unfold iter_is_at_end at h
  unfold iter_n_valid_messages
  by_cases hc : (((m == n) && (b == (0 : UInt32))) && (o == (0 : UInt64))) = true
  · simp only [Bool.and_eq_true, beq_iff_eq] at hc
    obtain ⟨⟨hm, hb⟩, ho⟩ := hc
    simp [hm, hb, ho]
  · simp [hc] at h

-- the boundary case: one whole buffer filled, the next one untouched
example : iter_n_valid_messages 0 1 0 = 1 := by decide
example : iter_is_at_end 2 0 0 2 = 1 ∧ iter_is_at_end 1 1 0 2 = 0 := by decide

end Nice.Props.C02Iter
