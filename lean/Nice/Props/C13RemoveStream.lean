/-
  C13 / C12 — the agent-wide keepalive timer (it drives the STUN keepalives AND the consent checks of every selected pair of every
  stream) is removed by nice_agent_remove_stream only when no stream is left: proved about the skeleton REGENERATED from
  agent/agent.c on every run (`Nice.Gen.RemoveStream.prog`).  (Seeded C13e added "or the pacing timer is not running" to the
  condition: the surviving streams then lose consent 30 s later although the peer keeps answering.)
-/
import Nice.Gen.RemoveStream
import Nice.Proofs.FlowEval
namespace Nice.Props.C13RemoveStream
open Nice.Flow Nice.Gen.RemoveStream

def hv : Havoc := fun _ _ => [0, 1]

/-- event kind 6 = priv_remove_keepalive_timer -/
def policy : Policy := fun _ kind σ => kind != 6 || σ.r0 == 0

def init : List St := [{ r0 := 0 }, { r0 := 1 }]

theorem analysis_ok : (reach hv policy prog init).ok = true := by rw [reach_ok_eq]; decide +kernel

theorem C13_keepalive_timer_goes_with_last_stream {σ0 : St} (h0 : σ0 ∈ init) {tr : List Ev} {σ1 : St} {o : Out}
    (hx : Exec hv prog σ0 tr σ1 o) : ∀ e ∈ tr, e.kind = 6 → e.st.r0 = 0 := by
  intro e he hk
  have hp := events_satisfy_policy analysis_ok h0 hx e he
  simpa [policy, hk] using hp

/-! non-vacuity: the timer IS removed on some path (last stream) -/
def never6 : Policy := fun _ kind _ => kind != 6
example : (reach hv never6 prog init).ok = false := by rw [reach_ok_eq]; decide +kernel

end Nice.Props.C13RemoveStream
