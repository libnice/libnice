/-
  C04, second module: "every message the library itself finishes with a key validates under that key"
  (partial form, see the theorem's comment).  Separate from Nice/Props/C04.lean because it builds on the
  builder proofs; the C04 check audits this module, which re-exports everything of Nice.Props.C04.
-/
import Nice.Props.C04
import Nice.Props.C07
namespace Nice.Props.C04
open Nice.Stun Nice.Spec.Stun Nice.Gen Nice.Props.C07

/-- MESSAGE-INTEGRITY is a property of the message, not of the buffer it sits in -/
theorem IntegrityOk.cut {H : Hashes} {c : Cfg} {buf : Bytes} {w : UInt16} {mk : Bytes}
    (hB : Built (some c) buf w) (hi : IntegrityOk H c buf mk) : IntegrityOk H c (buf.extract 0 w.toNat) mk := by
  obtain ⟨hoff, ml, text, hfind, hml, hmac, hrd⟩ := hi
  obtain ⟨_, hf, hin⟩ := find_built_inside (some c) buf w tMI hB
  rw [hfind] at hf
  have hoffs := hin hoff 20 (Except.ok.inj hf).symm
  rw [show (20 : UInt16).toNat = 20 from rfl] at hoffs
  have hle := hB.le_size
  obtain ⟨hBp, hsp⟩ := built_prefix (some c) buf w hB
  refine ⟨hoff, ml, text, by rw [find_prefix _ _ _ _ hB]; exact hfind, ?_, ?_,
    by rw [rdBytes_prefix buf _ hoff 20 (by omega) hle]; exact hrd⟩
  · unfold macLenOf at hml ⊢
    split
    · rw [if_pos ‹_›, hB.len_ok] at hml; rw [hBp.len_ok]; exact hml
    · rw [if_neg ‹_›] at hml; exact hml
  · rw [← hmac]
    apply macInput_congr (by rw [hsp]; omega) (by omega)
    intro j hj _ _
    exact getD_extract0 buf _ j (by omega) hle

/-- **Partial** form of "every message the library finishes with a key validates under that key":
    for an agent that uses short-term credentials (no LONG_TERM flag) and no fingerprints, a message
    whose body so far holds no MESSAGE-INTEGRITY / FINGERPRINT, finished with a key `k`, passes the
    MESSAGE-INTEGRITY stage of `stun_agent_validate` (`miCheckKey`) at any agent of the same
    configuration that is given `k` — in all four compatibility modes: the MAC written by
    `stun_agent_finish_message` is the MAC `stun_agent_validate` recomputes over the received bytes.
    NOT proved here (covered by the `fin` / `valm` tie on every run): the composition with the other
    stages of validate (cookie / presence rules / unknown attributes depend on what else the message
    holds), the LONG_TERM key derivation and the FINGERPRINT variant (incl. the MS-ICE2 `minus` rule). -/
theorem C04_finish_then_validate_partial (H : Hashes) (hH : ∀ k t, (H.hmac k t).size = 20) (ag ag' : Agent)
    (msg m' : Msg) (k : Bytes) (w : UInt16) (r : Nat) (attrs : List Attr)
    (hB : Built (some ag.cfg) msg.buf w) (hcap : msg.buf.size ≤ 65535)
    (hA : AttrsOf (some ag.cfg) msg.buf w attrs) (hF : FirstOccurrence (some ag.cfg) tMI attrs)
    (hkey : msg.key = none) (hlt : msg.ltValid = false)
    (hshort : ag.cfg.has STUN_AGENT_USAGE_LONG_TERM_CREDENTIALS = false)
    (hnofpr : (isRfc5389ish ag.cfg && ag.cfg.has STUN_AGENT_USAGE_USE_FINGERPRINT) = false)
    (hf : finishMessage H ag msg (some k) = .ok (r, ag', m')) (hr : r ≠ 0) :
    ∀ h f lv lk, miCheckKey H ag.cfg (m'.buf.extract 0 r) h f k lv lk = .ok (true, { key := some k }) := by
  intro h f lv lk
  have hge := hB.ge20
  have hminus : finishMinus ag.cfg = 20 := by
    unfold finishMinus
    unfold isRfc5389ish at hnofpr
    cases h1 : (ag.cfg.compat == STUN_COMPATIBILITY_MSICE2) <;>
      cases h2 : ag.cfg.has STUN_AGENT_USAGE_USE_FINGERPRINT <;> simp_all
  have hmk : finishMacKey ag.cfg k #[] = k := by unfold finishMacKey; rw [hshort]; rfl
  have hprep : finishPrep H ag.cfg msg k = .ok (false, msg, #[]) := by
    unfold finishPrep; simp [hlt, hshort]
  -- no FINGERPRINT stage, key `k`: `m'` holds what `finishAppendMI` left
  obtain ⟨m1, m2, len, hmi, hfp, hlen, rfl, hbuf⟩ :=
    (of_total (finishMessage_spec H hH ag msg (some k) hcap ⟨rfl, w, hB⟩) hf).2 hr
  unfold finishFPR at hfp
  rw [hnofpr] at hfp
  cases hfp
  rw [hkey] at hmi
  unfold finishMI pickKey at hmi
  simp only [hprep] at hmi
  rcases finishAppendMI_stored H hH ag.cfg msg k #[] hB hcap with e | ⟨b, w', lf, text, e, hAp, htext, hrd⟩
  · rw [e] at hmi; cases hmi
  rw [e] at hmi
  cases hmi
  have hBfin := hAp.built hB (by decide)
  have hlw : len = w' := Except.ok.inj (hlen.symm.trans hBfin.len_ok)
  subst hlw
  have hlen' := hAp.len
  rw [padOf_20] at hlen'
  have hfind := hAp.find hB (by decide) (hB.walk_of_parse hA) hF
  rw [(lfv_bounds hAp.lfv).2 (by decide)] at hfind
  rw [hminus] at htext
  rw [hmk] at hrd
  -- the finished buffer holds a right MESSAGE-INTEGRITY; so does the packet cut out of it
  have hi : IntegrityOk H ag.cfg b k := by
    refine ⟨w.toNat + 4, len - 20, text, hfind, ?_, by rw [show w.toNat + 4 + 20 = len.toNat by omega]; exact htext, hrd⟩
    have hv : (len - 20).toNat = w.toNat + 4 := by
      rw [UInt16.toNat_sub_of_le _ _ (by rw [UInt16.le_iff_toNat_le]; show 20 ≤ len.toNat; omega)]
      show len.toNat - 20 = _
      omega
    unfold macLenOf
    split
    · rw [hBfin.len_ok]; rfl
    · rw [← hv, UInt16.ofNat_toNat]
  rw [hbuf]
  exact miCheckKey_of_integrity hshort (hi.cut hBfin) h f lv lk

/-! non-vacuity: the configuration hypotheses hold for an RFC 5389 agent with short-term credentials and
    no fingerprints; a fresh message satisfies `Built`, `AttrsOf … []`, `FirstOccurrence … []` (end of
    Nice/Props/C07.lean) -/
example : (Cfg.has ⟨1, 1⟩ STUN_AGENT_USAGE_LONG_TERM_CREDENTIALS = false) ∧
    ((isRfc5389ish ⟨1, 1⟩ && Cfg.has ⟨1, 1⟩ STUN_AGENT_USAGE_USE_FINGERPRINT) = false) := by decide

example (a : Option Cfg) : FirstOccurrence a tMI [] := fun x hx => by cases hx

end Nice.Props.C04
