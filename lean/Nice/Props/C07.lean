/-
  C07 — whatever the STUN builder emits is bounded, well-formed and reads back equal.
  Theorems about the builder half of `Nice.Stun` (stun_message_init / append*, stunmessage.c,
  stun5389.c, utils.c) — for all buffers, capacities, types, lengths and values.
-/
import Nice.Proofs.StunFinish
import Nice.Proofs.StunCodec
namespace Nice.Props.C07
open Nice.Stun Nice.Spec.Stun Nice.Gen

/-- `stun_message_append` never reads or writes outside the buffer, whatever the buffer holds
    (any capacity ≥ 20, any header contents — including a message length that wrapped at 16 bits —
    any type, any length a caller can have in memory). -/
theorem C07_no_write_outside (a : Option Cfg) (buf : Bytes) (type : UInt16) (n : Nat)
    (h20 : 20 ≤ buf.size) (hn : n < 2 ^ 63) : ∃ r, append a buf type n = .ok r :=
  append_ok a buf type n h20 hn

/-- the same for `stun_message_append_bytes` (and so for flag / 32 / 64 / string / software, which
    call it): the value is copied inside the buffer or nothing is written -/
theorem C07_no_write_outside_bytes (a : Option Cfg) (buf : Bytes) (type : UInt16) (data : Bytes)
    (h20 : 20 ≤ buf.size) (hn : data.size < 2 ^ 63) : ∃ r, appendBytes a buf type data = .ok r :=
  appendBytes_ok a buf type data h20 hn

/-- `stun_message_init` writes only the 20 header bytes, or nothing -/
theorem C07_init_no_fault (buf : Bytes) (c m : Nat) (id : Bytes) :
    ∃ r, messageInit buf c m id = .ok r :=
  ok_of_total (messageInit_spec none buf c m id)

/-- Each append either fits or reports lack of space leaving the message as it was.  On success
    the message stays inside the buffer, nothing at or beyond the new end is touched, nothing
    before the old end is touched except the header length field, and the value is stored. -/
theorem C07_append_fits_or_unchanged (a : Option Cfg) (buf : Bytes) (w type : UInt16) (data : Bytes)
    (hB : Built a buf w) (hcap : buf.size ≤ 65535) (hn : data.size < 2 ^ 63) :
    (appendBytes a buf type data = .ok (.noSpace, buf) ∧
      w.toNat + 4 + data.size + padOf a data.size > buf.size) ∨
    (∃ b' w', appendBytes a buf type data = .ok (.success, b') ∧ b'.size = buf.size ∧
      Built a b' w' ∧ w'.toNat = w.toNat + 4 + data.size + padOf a data.size ∧ w'.toNat ≤ buf.size ∧
      (∀ j, w'.toNat ≤ j → b'.getD j 0 = buf.getD j 0) ∧
      (∀ j, j < w.toNat → j ≠ 2 → j ≠ 3 → b'.getD j 0 = buf.getD j 0) ∧
      (∀ k, k < data.size → b'.getD (w.toNat + 4 + k) 0 = data.getD k 0)) := by
  rcases appendBytes_spec a buf w type data hB hcap hn with ⟨hno, e⟩ | ⟨b', w', lf, e, hA, hrd⟩
  · exact Or.inl ⟨e, hno⟩
  · refine Or.inr ⟨b', w', e, hA.size, hA.built hB hn, hA.len, hA.fits, hA.above, hA.below, fun k hk => ?_⟩
    have := rd_of_rdBytes hrd hk
    rw [rd_eq (by have := hA.len; have := hA.fits; have := hA.size; omega)] at this
    exact Except.ok.inj this

/-- "first occurrence": no earlier attribute has the (wire) type or is M-I / FINGERPRINT -/
def FirstOccurrence (a : Option Cfg) (t : UInt16) (attrs : List Attr) : Prop :=
  ∀ x ∈ attrs, x.type ≠ (swapType a t).toNat ∧ x.type ≠ MESSAGE_INTEGRITY ∧ x.type ≠ FINGERPRINT

/-- the attribute list of a builder state (exists by `built_wellformed`) -/
def AttrsOf (a : Option Cfg) (buf : Bytes) (w : UInt16) (attrs : List Attr) : Prop :=
  parseFrom (!noAlign a) 20 (seg buf 20 (w.toNat - 20)) = some attrs

/-- Byte strings read back: after a successful `append_bytes` the lookup finds the attribute (first
    occurrence of its type) and the value bytes are the appended ones.  The length field is the data
    length, except for RFC 3489 style messages (no magic cookie, aligned attributes) whose length
    field libnice rounds up to a multiple of 4 — the extra bytes are the zero padding. -/
theorem C07_roundtrip_bytes (a : Option Cfg) (buf : Bytes) (w t : UInt16) (data b' : Bytes)
    (attrs : List Attr) (hB : Built a buf w) (hcap : buf.size ≤ 65535)
    (hA : AttrsOf a buf w attrs) (hF : FirstOccurrence a t attrs) (hdn : data.size < 2 ^ 63)
    (happ : appendBytes a buf t data = .ok (.success, b')) :
    ∃ lf : UInt16, find a b' t = .ok (some (w.toNat + 4, lf)) ∧
      rdBytes b' (w.toNat + 4) data.size = .ok data ∧
      (lf.toNat = data.size ∨ (noAlign a = false ∧ lf.toNat = data.size + pad4 data.size)) := by
  obtain ⟨w', lf, hAp, hfind, hrd⟩ :=
    (appendBytes_spec a buf w t data hB hcap hdn).readback hB hdn (hB.walk_of_parse hA) hF happ
  exact ⟨lf, hfind, hrd, hAp.lfv⟩

/-- values whose size is a multiple of 4: the length field is exact in every mode -/
theorem roundtrip_mult4 (a : Option Cfg) (buf : Bytes) (w t : UInt16) (data b' : Bytes)
    (attrs : List Attr) (hB : Built a buf w) (hcap : buf.size ≤ 65535)
    (hA : AttrsOf a buf w attrs) (hF : FirstOccurrence a t attrs) (h4 : data.size % 4 = 0)
    (hdn : data.size < 2 ^ 63)
    (happ : appendBytes a buf t data = .ok (.success, b')) :
    find a b' t = .ok (some (w.toNat + 4, UInt16.ofNat data.size)) ∧
      rdBytes b' (w.toNat + 4) data.size = .ok data := by
  obtain ⟨lf, hfind, hrd, hlf⟩ := C07_roundtrip_bytes a buf w t data b' attrs hB hcap hA hF hdn happ
  rw [(lfv_bounds hlf).2 h4] at hfind
  exact ⟨hfind, hrd⟩

/-- 32-bit integers read back identical -/
theorem C07_roundtrip_32 (a : Option Cfg) (buf : Bytes) (w t : UInt16) (v : UInt32) (b' : Bytes)
    (attrs : List Attr) (hB : Built a buf w) (hcap : buf.size ≤ 65535)
    (hA : AttrsOf a buf w attrs) (hF : FirstOccurrence a t attrs)
    (happ : append32 a buf t v = .ok (.success, b')) :
    find32 a b' t = .ok (.success, v) := by
  unfold append32 at happ
  have hsz : (be32Bytes v).size = 4 := rfl
  obtain ⟨hf, hr⟩ := roundtrip_mult4 a buf w t (be32Bytes v) b' attrs hB hcap hA hF (by rw [hsz])
    (by rw [hsz]; decide) happ
  unfold find32
  rw [hf]
  simp only [hsz]
  rw [if_pos (by decide)]
  rw [hsz] at hr
  rw [hr]
  simp only
  rw [be32_roundtrip]

/-- flags read back -/
theorem C07_roundtrip_flag (a : Option Cfg) (buf : Bytes) (w t : UInt16) (b' : Bytes)
    (attrs : List Attr) (hB : Built a buf w) (hcap : buf.size ≤ 65535)
    (hA : AttrsOf a buf w attrs) (hF : FirstOccurrence a t attrs)
    (happ : appendFlag a buf t = .ok (.success, b')) :
    findFlag a b' t = .ok .success := by
  unfold appendFlag at happ
  obtain ⟨hf, _⟩ := roundtrip_mult4 a buf w t #[] b' attrs hB hcap hA hF (by decide) (by decide) happ
  unfold findFlag
  rw [hf]
  rfl

/-- 64-bit integers read back identical -/
theorem C07_roundtrip_64 (a : Option Cfg) (buf : Bytes) (w t : UInt16) (v : UInt64) (b' : Bytes)
    (attrs : List Attr) (hB : Built a buf w) (hcap : buf.size ≤ 65535)
    (hA : AttrsOf a buf w attrs) (hF : FirstOccurrence a t attrs)
    (happ : append64 a buf t v = .ok (.success, b')) :
    find64 a b' t = .ok (.success, v) := by
  unfold append64 at happ
  generalize hd : be32Bytes (UInt32.ofNat (v.toNat / 4294967296)) ++ be32Bytes (UInt32.ofNat v.toNat) = data at happ
  have hsz : data.size = 8 := by rw [← hd]; rfl
  obtain ⟨hf, hr⟩ := roundtrip_mult4 a buf w t data b' attrs hB hcap hA hF (by rw [hsz])
    (by rw [hsz]; decide) happ
  unfold find64
  rw [hf]
  simp only [hsz]
  rw [if_pos (by decide)]
  rw [hsz] at hr
  rw [hr]
  simp only
  have h1 : be32 data = UInt32.ofNat (v.toNat / 4294967296) := by
    rw [← be32_roundtrip (UInt32.ofNat (v.toNat / 4294967296)), ← hd]
    unfold be32 be32Bytes
    simp [Array.getD_eq_getD_getElem?]
  have h2 : be32 (data.extract 4 8) = UInt32.ofNat v.toNat := by
    rw [← be32_roundtrip (UInt32.ofNat v.toNat), ← hd]
    unfold be32 be32Bytes
    simp [Array.getD_eq_getD_getElem?]
  rw [h1, h2, be64_roundtrip]

/-- plain IPv4 / IPv6 addresses read back identical -/
theorem C07_roundtrip_addr (a : Option Cfg) (buf : Bytes) (w t : UInt16) (fam : Nat) (port : UInt16)
    (ip : Bytes) (addrlen : Nat) (b' : Bytes) (attrs : List Attr) (hB : Built a buf w)
    (hcap : buf.size ≤ 65535) (hA : AttrsOf a buf w attrs) (hF : FirstOccurrence a t attrs)
    (hfam : (fam = 4 ∧ ip.size = 4) ∨ (fam = 6 ∧ ip.size = 16))
    (happ : appendAddr a buf t ⟨fam, port, ip⟩ addrlen = .ok (.success, b')) :
    findAddr a b' t sizeofStorage =
      .ok (.success, some ⟨fam, port, ip⟩, if fam = 4 then sizeofSockaddr else sizeofSockaddrIn6) := by
  rw [appendAddr_eq] at happ
  simp only at happ
  split at happ
  · cases happ
  · -- both families: `encodeAddr family port ip` is stored under a multiple of 4
    have key : ∀ family : UInt8, (family = 1 ∧ ip.size = 4) ∨ (family = 2 ∧ ip.size = 16) →
        appendStore a buf t (4 + ip.size) (encodeAddr family port ip) = .ok (.success, b') →
        findAddr a b' t sizeofStorage = .ok (.success, some ⟨if family = 1 then 4 else 6, port, ip⟩,
          if family = 1 then sizeofSockaddr else sizeofSockaddrIn6) := by
      intro family hfamily hst
      have hip : ip.size ≤ 16 ∧ (4 + ip.size) % 4 = 0 := by rcases hfamily with h | h <;> omega
      obtain ⟨w', lf, hAp, hfind, hrd⟩ := (appendStore_spec a buf w t (4 + ip.size) _ hB hcap (by omega)
        (Nat.le_of_eq (encodeAddr_facts family port ip).1)).readback hB (by omega) (hB.walk_of_parse hA) hF hst
      rw [(lfv_bounds hAp.lfv).2 hip.2] at hfind
      rw [(encodeAddr_facts family port ip).1] at hrd
      exact findAddr_of_found a b' t (w.toNat + 4) family port ip hfamily hfind hrd
    rcases hfam with ⟨h4, hip⟩ | ⟨h6, hip⟩
    · subst h4
      rw [if_pos rfl, takeZ_self ip 4 hip, show (4 : Nat) + 4 = 4 + ip.size by rw [hip]] at happ
      exact key 1 (Or.inl ⟨rfl, hip⟩) happ
    · subst h6
      rw [if_neg (by decide), if_pos rfl] at happ
      split at happ
      · cases happ
      · rw [takeZ_self ip 16 hip, show (4 : Nat) + 16 = 4 + ip.size by rw [hip]] at happ
        exact key 2 (Or.inr ⟨rfl, hip⟩) happ

/-- XOR-mapping an address is an involution (cookie and transaction id fixed by the message) -/
theorem C07_xor_involution (buf : Bytes) (addr : SockAddr) (addrlen : Nat) (cookie : UInt32)
    (r : SockAddr) (h : xorAddress buf addr addrlen cookie = .ok (.success, r))
    (hip : (addr.fam = 4 → addr.ip.size = 4) ∧ (addr.fam = 6 → addr.ip.size = 16)) :
    xorAddress buf r addrlen cookie = .ok (.success, addr) := by
  have _ := hip  -- not needed: `xorBytes` keeps the size of its first argument
  have hp : addr.port ^^^ (cookie >>> 16).toUInt16 ^^^ (cookie >>> 16).toUInt16 = addr.port := by
    rw [UInt16.xor_assoc, UInt16.xor_self, UInt16.xor_zero]
  unfold xorAddress at h ⊢
  split at h
  · next h4 =>
    split at h
    · cases h
    · next hal => cases h; simp only [h4, if_true, if_neg hal, xorBytes_xorBytes, hp]
  · next h4 =>
    split at h
    · next h6 =>
      split at h
      · cases h
      · next hal =>
        split at h
        · cases h
        · next k hk => cases h; simp only [h4, h6, if_true, if_neg hal, xorBytes_xorBytes, hp]; rfl
    · cases h

/-- error codes 300..699 read back identical -/
theorem C07_roundtrip_error (a : Option Cfg) (buf : Bytes) (w : UInt16) (code : Nat) (b' : Bytes)
    (attrs : List Attr) (hB : Built a buf w) (hcap : buf.size ≤ 65535)
    (hA : AttrsOf a buf w attrs)
    (hF : FirstOccurrence a (UInt16.ofNat STUN_ATTRIBUTE_ERROR_CODE) attrs)
    (hcode : 300 ≤ code ∧ code ≤ 699)
    (happ : appendError a buf code = .ok (.success, b')) :
    findError a b' = .ok (.success, code) := by
  have hss := strerror_size code
  rw [appendError_eq] at happ
  generalize hd : (#[0, 0, UInt8.ofNat (code / 100), UInt8.ofNat (code % 100)] ++ strerror code : Bytes) = d at happ
  have hsz : d.size = 4 + (strerror code).size := by rw [← hd]; simp
  have hd2 : d.getD 2 0 = UInt8.ofNat (code / 100) := by
    rw [← hd]; simp [Array.getD_eq_getD_getElem?, Array.getElem?_append]
  have hd3 : d.getD 3 0 = UInt8.ofNat (code % 100) := by
    rw [← hd]; simp [Array.getD_eq_getD_getElem?, Array.getElem?_append]
  obtain ⟨w', lf, hAp, hfind, hrd⟩ := (appendStore_spec a buf w _ (4 + (strerror code).size) d hB hcap (by omega)
    (Nat.le_of_eq hsz)).readback hB (by omega) (hB.walk_of_parse hA) hF happ
  have hlf := (lfv_bounds hAp.lfv).1
  rw [hsz] at hrd
  unfold findError
  rw [hfind]
  simp only
  rw [if_neg (by rw [UInt16.lt_iff_toNat_lt]; show ¬ _ < 4; omega),
    rd_of_rdBytes hrd (i := 2) (by omega), rd_of_rdBytes hrd (i := 3) (by omega), hd2, hd3]
  simp only
  obtain ⟨hrange, hval⟩ := errorCode_roundtrip hcode
  rw [if_neg (by rw [hrange]; decide), hval]

/-- builder operations (the typed appends of stunmessage.h) -/
inductive Op where
  | bytes (t : UInt16) (d : Bytes)
  | flag (t : UInt16)
  | u32 (t : UInt16) (v : UInt32)
  | u64 (t : UInt16) (v : UInt64)
  | str (t : UInt16) (s : Bytes)
  | err (code : Nat)
  | sw (s : Option Bytes)

def Op.run (a : Option Cfg) (buf : Bytes) : Op → M (Ret × Bytes)
  | .bytes t d => appendBytes a buf t d
  | .flag t => appendFlag a buf t
  | .u32 t v => append32 a buf t v
  | .u64 t v => append64 a buf t v
  | .str t s => appendString a buf t s
  | .err c => appendError a buf c
  | .sw s => appendSoftware a buf s

/-- size of the value an op stores (the caller has it in memory) -/
def Op.dataSize : Op → Nat
  | .bytes _ d => d.size
  | .str _ s => s.size
  | .sw (some s) => s.size
  | _ => 8

/-- run a sequence, ignoring the per-op return codes (a failed append leaves the message as it was) -/
def runOps (a : Option Cfg) (buf : Bytes) : List Op → M Bytes
  | [] => .ok buf
  | op :: ops =>
    match op.run a buf with
    | .error e => .error e
    | .ok (_, b) => runOps a b ops

theorem op_preserves (a : Option Cfg) (op : Op) (r : Ret) {cap : Nat} {buf b' : Bytes} (hg : Good a cap buf)
    (hcap : cap ≤ 65535) (hn : op.dataSize < 2 ^ 63) (h : op.run a buf = .ok (r, b')) : Good a cap b' := by
  cases op with
  | bytes t d => exact of_total (appendBytes_step a t d hg hcap hn) h
  | flag t => exact of_total (appendBytes_step a t #[] hg hcap (by decide)) h
  | u32 t v => exact of_total (appendBytes_step a t (be32Bytes v) hg hcap (show 4 < 2 ^ 63 by decide)) h
  | u64 t v =>
    exact of_total (appendBytes_step a t
      (be32Bytes (UInt32.ofNat (v.toNat / 4294967296)) ++ be32Bytes (UInt32.ofNat v.toNat)) hg hcap
      (show 8 < 2 ^ 63 by decide)) h
  | str t s => exact of_total (appendBytes_step a t (cstr s) hg hcap (Nat.lt_of_le_of_lt (cstr_size s) hn)) h
  | err c => exact of_total (appendError_step a c hg hcap) h
  | sw s =>
    simp only [Op.run] at h
    rw [appendSoftware_eq] at h
    generalize hS : s.getD PACKAGE_STRING.toArray = S at h
    have hSs : S.size < 2 ^ 63 := by
      cases s with
      | none => simp only [Option.getD] at hS; rw [← hS]; decide
      | some s' => simp only [Option.getD] at hS; rw [← hS]; simpa [Op.dataSize] using hn
    cases hsl : softwareLen S 0 0 129 with
    | error e => rw [hsl] at h; cases h
    | ok n =>
      rw [hsl] at h
      simp only at h
      by_cases hgt : n > S.size
      · rw [if_pos hgt] at h; cases h
      · rw [if_neg hgt] at h
        exact of_total (appendBytes_step a _ (S.extract 0 n) hg hcap (by simp; omega)) h

theorem runOps_preserves (a : Option Cfg) (ops : List Op) {cap : Nat} : ∀ (b1 b : Bytes), Good a cap b1 →
    cap ≤ 65535 → (∀ op ∈ ops, op.dataSize < 2 ^ 63) → runOps a b1 ops = .ok b → Good a cap b := by
  induction ops with
  | nil => intro b1 b hg _ _ hr; cases hr; exact hg
  | cons op ops ih =>
    intro b1 b hg hcap hsz hr
    simp only [runOps] at hr
    split at hr
    · cases hr
    · next r b2 hop =>
      exact ih b2 b (op_preserves a op r hg hcap (hsz op (by simp)) hop) hcap (fun o ho => hsz o (by simp [ho])) hr

/-- Every message the builder produces — `stun_message_init` followed by any sequence of typed
    appends, successful or not — stays inside the buffer, passes the library's own length validation
    and is accepted by the independent reference parser (buffers up to 65535 bytes). -/
theorem C07_finished_is_wellformed (a : Option Cfg) (buf0 : Bytes) (c m : Nat) (id b0 : Bytes)
    (ops : List Op) (b : Bytes) (hc : c < 4) (hcap : buf0.size ≤ 65535)
    (hinit : messageInit buf0 c m id = .ok (some b0))
    (hsizes : ∀ op ∈ ops, op.dataSize < 2 ^ 63)
    (hrun : runOps a b0 ops = .ok b) :
    ∃ w : UInt16, messageLength b = .ok w ∧ w.toNat ≤ b.size ∧ b.size = buf0.size ∧
      validateLen (b.extract 0 w.toNat) (!noAlign a) = .ok (.len w.toNat) ∧
      ∃ attrs, parseAttrs (!noAlign a) (b.extract 0 w.toNat).toList = some attrs := by
  obtain ⟨hB0, hsz0⟩ := init_built a buf0 c m id b0 hc hinit
  obtain ⟨hs, w, hB⟩ := runOps_preserves a ops b0 b ⟨hsz0, 20, hB0⟩ hcap hsizes hrun
  obtain ⟨hv, hp⟩ := built_wellformed a b w hB
  exact ⟨w, hB.len_ok, hB.le_size, hs, hv, hp⟩

/-- Finishing either yields a length within the buffer or zero; a non-zero result is the length of a
    message that is again in a well-formed builder state (so it passes the library's own validation
    and the independent parser, `built_wellformed`).  The buffer size never changes.
    Hypothesis on the parameter HMAC: it returns 20 bytes. -/
theorem C07_finish_len (H : Hashes) (hH : ∀ k t, (H.hmac k t).size = 20) (ag ag' : Agent) (msg m' : Msg)
    (key : Option Bytes) (w : UInt16) (r : Nat) (hB : Built (some ag.cfg) msg.buf w)
    (hcap : msg.buf.size ≤ 65535) (hf : finishMessage H ag msg key = .ok (r, ag', m')) :
    m'.buf.size = msg.buf.size ∧
    (r = 0 ∨ (r ≤ msg.buf.size ∧ ∃ w', Built (some ag.cfg) m'.buf w' ∧ w'.toNat = r)) := by
  exact (of_total (finishMessage_spec H hH ag msg key hcap ⟨rfl, w, hB⟩) hf).1

/-- a finished message passes the library's own length validation and the independent parser -/
theorem C07_finished_message_wellformed (H : Hashes) (hH : ∀ k t, (H.hmac k t).size = 20) (ag ag' : Agent)
    (msg m' : Msg) (key : Option Bytes) (w : UInt16) (r : Nat) (hB : Built (some ag.cfg) msg.buf w)
    (hcap : msg.buf.size ≤ 65535) (hf : finishMessage H ag msg key = .ok (r, ag', m')) (hr : r ≠ 0) :
    validateLen (m'.buf.extract 0 r) (!noAlign (some ag.cfg)) = .ok (.len r) ∧
    ∃ attrs, parseAttrs (!noAlign (some ag.cfg)) (m'.buf.extract 0 r).toList = some attrs := by
  obtain ⟨_, h⟩ := C07_finish_len H hH ag ag' msg m' key w r hB hcap hf
  rcases h with h | ⟨_, w', hB', hw'⟩
  · exact absurd h hr
  · rw [← hw']; exact built_wellformed _ _ _ hB'

/-! ### non-vacuity -/

def buf40 : Bytes := Array.replicate 40 0xaa
def txid : Bytes := #[0x21, 0x12, 0xa4, 0x42, 0, 0, 0, 0, 0, 0, 0, 0, 0, 0, 0, 1]

example : ∃ b0, messageInit buf40 0 1 txid = .ok (some b0) := by
  obtain ⟨r, h⟩ := C07_init_no_fault buf40 0 1 txid
  unfold messageInit at h ⊢
  rw [if_neg (by decide)] at h ⊢
  exact ⟨_, rfl⟩

/-- the read-back hypotheses are satisfiable: a fresh message has no attributes -/
example (a : Option Cfg) (b0 : Bytes) (h : messageInit buf40 0 1 txid = .ok (some b0)) :
    Built a b0 20 ∧ AttrsOf a b0 20 [] ∧ FirstOccurrence a 0x24 [] := by
  refine ⟨(init_built a buf40 0 1 txid b0 (by decide) h).1, ?_, fun x hx => by cases hx⟩
  unfold AttrsOf
  have : (20 : UInt16).toNat - 20 = 0 := by decide
  rw [this, seg_zero, parseFrom]

end Nice.Props.C07
