import Nice.Model.Prio
/-! # C15: the candidate type-preference switch of the model IS the code's

`nice_candidate_ice_type_preference` (agent/candidate.c) is REGENERATED on every run as `Nice.Gen.ice_type_preference`
(`tools/extract.py` FIELD_KERNELS + FIELD_SUBST: `candidate->type`, `candidate->transport` and the test
`c->turn->type == NICE_RELAY_TYPE_TURN_UDP` become parameters; each substitution must match the current source exactly
or the extraction fails closed).  The hand-written `Nice.Prio.typePreference`, which all C15 ranking theorems are stated
about, is proved equal to it for every candidate and every flag combination. -/
namespace Nice.Props.C15TypePref
open Nice.Gen Nice.Prio

def b2i (b : Bool) : Int32 := if b then 1 else 0

theorem b2i_ne_zero (b : Bool) : (!(b2i b == 0)) = b := by cases b <;> rfl

theorem ofNat_beq (n k : Nat) (hn : n < 2 ^ 32) (hk : k < 2 ^ 32) :
    (UInt32.ofNat n == UInt32.ofNat k) = decide (n = k) := by
  rw [Bool.eq_iff_iff, beq_iff_eq, decide_eq_true_iff, ← UInt32.toNat_inj, UInt32.toNat_ofNat_of_lt' hn,
    UInt32.toNat_ofNat_of_lt' hk]

/-- the C code halves the `guint8` in `int` and converts back -/
theorem halve_int (tp : UInt8) : UInt8.ofInt (Int32.ofNat tp.toNat / 2).toInt = tp / 2 := by
  have h := tp.toNat_lt
  have e : (Int32.ofNat tp.toNat / 2).toInt = (tp.toNat / 2 : Nat) := by
    rw [Int32.toInt_div_of_ne_right _ _ (by decide), Int32.toInt_ofNat_of_lt (by omega)]
    simp [Int.tdiv_eq_ediv_of_nonneg]
  rw [e, ← UInt8.toNat_inj, UInt8.toNat_div]
  show (UInt8.ofNat ((tp.toNat / 2 : Nat) % 2 ^ 8 : Int).toNat).toNat = tp.toNat / 2
  rw [UInt8.toNat_ofNat']
  omega

theorem C15_model_type_preference_is_code (c : Cand) (reliable nat : Bool)
    (ht : c.type < 2 ^ 32) (htr : c.transport < 2 ^ 32) :
    ice_type_preference (UInt32.ofNat c.type) (UInt32.ofNat c.transport) (b2i reliable) (b2i nat) (b2i c.turnIsUdp)
      = typePreference c reliable nat := by
  have e : ∀ k, k < 2 ^ 32 → (UInt32.ofNat c.type == OfNat.ofNat k) = decide (c.type = k) :=
    fun k hk => ofNat_beq c.type k ht hk
  have t0 : (UInt32.ofNat c.transport == 0) = decide (c.transport = 0) := ofNat_beq c.transport 0 htr (by decide)
  unfold ice_type_preference typePreference
  -- the code halves inside each arm of the switch, the model after it
  simp only [e 0 (by decide), e 1 (by decide), e 2 (by decide), e 3 (by decide), t0, bne, b2i_ne_zero, halve_int,
    NICE_CANDIDATE_TYPE_HOST, NICE_CANDIDATE_TYPE_PEER_REFLEXIVE,
    NICE_CANDIDATE_TYPE_SERVER_REFLEXIVE, NICE_CANDIDATE_TYPE_RELAYED, NICE_CANDIDATE_TRANSPORT_UDP,
    NICE_CANDIDATE_TYPE_PREF_HOST, NICE_CANDIDATE_TYPE_PREF_PEER_REFLEXIVE,
    NICE_CANDIDATE_TYPE_PREF_NAT_ASSISTED, NICE_CANDIDATE_TYPE_PREF_SERVER_REFLEXIVE,
    NICE_CANDIDATE_TYPE_PREF_RELAYED_UDP, NICE_CANDIDATE_TYPE_PREF_RELAYED]
  cases reliable <;> by_cases htp : c.transport = 0 <;> simp [htp, apply_ite (fun x : UInt8 => x / 2)]

end Nice.Props.C15TypePref
