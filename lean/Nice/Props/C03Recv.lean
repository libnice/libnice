/-
  C03 / C02 — the receive path agent/agent.c agent_recv_message_unlocked, proved about the skeleton REGENERATED from the
  source on every run (`Nice.Gen.RecvMessage.prog`, tools/extract_flow.py) with the verified analysis of `Nice.Model.Flow`:
  for every outcome of every untracked condition and call,

  * the function reports RECV_SUCCESS — "one message for the application" — only if, for this datagram,
    nice_component_verify_remote_candidate was asked and said yes (the source address completed an authenticated check)
    and the STUN handler did not claim the datagram;
  * the vectored pre-check and the contiguous length check are asked with the same padding rule (source text of the two
    argument expressions, compared by the kernel).
-/
import Nice.Gen.RecvMessage
import Nice.Proofs.FlowEval
namespace Nice.Props.C03Recv
open Nice.Flow Nice.Gen.RecvMessage

/-- what a tracked store may receive: a gboolean at the listed sites, any RecvStatus elsewhere -/
def hv : Havoc := fun site _ => if boolSites.elem site then [0, 1] else statusValues

/-- event kind 5 = the payload is handed on as the peer's data without being returned to the caller (queued until a pair is
    selected, or fed to the pseudo-TCP socket): only after the source gate said yes -/
def anyEvent : Policy := fun _ kind σ => kind != 5 || σ.r1 == 1

/-- `retval` is uninitialised; the gate has not been asked; the handler has not been asked -/
def init : List St := statusValues.map fun v => { r0 := v, r1 := 2, r2 := 2, r3 := 0 }

def outOk (p : St × Out) : Bool :=
  match p.2 with
  | .ret _ => p.1.r0 != RECV_SUCCESS || (p.1.r1 == 1 && p.1.r2 != 1)
  | .abort => true          -- g_assert (retval != RECV_OOB): nothing is claimed after an assertion failure
  | _ => false

theorem summary_ok : (reach hv anyEvent prog init).ok = true ∧ ((reach hv anyEvent prog init).outs.all outOk) = true := by
  rw [reach_ok_eq, reach_all_eq]; decide +kernel

theorem C03_data_only_from_validated_source {σ0 : St} (h0 : σ0 ∈ init) {tr : List Ev} {σ1 : St} {v : Nat}
    (hx : Exec hv prog σ0 tr σ1 (.ret v)) (hs : σ1.r0 = RECV_SUCCESS) : σ1.r1 = 1 ∧ σ1.r2 ≠ 1 := by
  have := outcomes_satisfy summary_ok h0 hx
  simp only [outOk, hs, bne_self_eq_false, Bool.false_or, Bool.and_eq_true, beq_iff_eq, bne_iff_ne, ne_eq] at this
  exact this

/-- **C03_reliable_data_only_from_validated_source.**  In reliable mode the payload is queued for / fed to pseudo-TCP only after
    nice_component_verify_remote_candidate said yes for this datagram. -/
theorem C03_reliable_data_only_from_validated_source {σ0 : St} (h0 : σ0 ∈ init) {tr : List Ev} {σ1 : St} {o : Out}
    (hx : Exec hv prog σ0 tr σ1 o) : ∀ e ∈ tr, e.kind = 5 → e.st.r1 = 1 := by
  intro e he hk
  have hp := events_satisfy_policy summary_ok.1 h0 hx e he
  simpa [anyEvent, hk] using hp

theorem demux_same_padding : fastPadArg = fullPadArg := by decide

/-! non-vacuity: SUCCESS is reachable (with the gate passed), and so is the drop of an unknown source -/
example : ((reach hv anyEvent prog init).outs.any fun p => p.1.r0 == RECV_SUCCESS && p.1.r1 == 1) = true := by
  rw [reach_any_eq]; decide +kernel
example : ((reach hv anyEvent prog init).outs.any fun p => p.1.r0 == RECV_OOB && p.1.r1 == 0) = true := by
  rw [reach_any_eq]; decide +kernel

end Nice.Props.C03Recv
