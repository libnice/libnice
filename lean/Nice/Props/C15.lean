/-
  C15 — Candidate and pair priorities follow RFC 8445 and order the check list.
  The formulas proved about are the kernels *translated from the C source* (Nice.Gen).
-/
import Nice.Model.Prio
import Nice.Props.C15TypePref  -- for checks/C15.py, which builds this module
namespace Nice.Props.C15
open Nice.Gen Nice.Prio

/-- **C15_candidate_formula.**  priority = 2^24·type + 2^8·local + (256 − component), no wrap,
    for type ≤ 126, local ≤ 65535, component 1..256. -/
theorem C15_candidate_formula (tp lp c : UInt32) (htp : tp.toNat ≤ 126) (hlp : lp.toNat ≤ 65535)
    (hc1 : 1 ≤ c.toNat) (hc : c.toNat ≤ 256) :
    (nice_candidate_ice_priority_full tp lp c).toNat
      = 2 ^ 24 * tp.toNat + 2 ^ 8 * lp.toNat + (256 - c.toNat) := by
  unfold nice_candidate_ice_priority_full
  rw [UInt32.toNat_add, UInt32.toNat_add, UInt32.toNat_mul, UInt32.toNat_mul,
    UInt32.toNat_sub_of_le _ _ (UInt32.le_iff_toNat_le.mpr hc)]
  simp only [UInt32.toNat_ofNat, Nat.reducePow, Nat.reduceMod]
  omega

/-- the priority is in 1 .. 0x7effffff as the C comment says (so it is never 0 and fits 31 bits) -/
theorem C15_candidate_range (tp lp c : UInt32) (htp : tp.toNat ≤ 126) (hlp : lp.toNat ≤ 65535)
    (hc1 : 1 ≤ c.toNat) (hc : c.toNat ≤ 256) :
    (nice_candidate_ice_priority_full tp lp c).toNat ≤ 0x7effffff := by
  rw [C15_candidate_formula tp lp c htp hlp hc1 hc]; omega

/-- the switch table with the values of the regenerated constants (one that changes breaks `typePreference_eq`) -/
def baseTypePref (c : Cand) (natAssisted : Bool) : UInt8 :=
  if c.type = 0 then 120 else if c.type = 2 then 110 else if c.type = 1 then (if natAssisted then 105 else 100)
  else if c.type = 3 then (if c.turnIsUdp then 30 else 20) else 0

theorem typePreference_eq (c : Cand) (reliable nat : Bool) : typePreference c reliable nat =
    if (reliable && c.transport = 0) || (!reliable && c.transport ≠ 0) then baseTypePref c nat / 2
    else baseTypePref c nat := rfl

theorem baseTypePref_le (c : Cand) (nat : Bool) : (baseTypePref c nat).toNat ≤ 120 := by
  unfold baseTypePref
  repeat' split
  all_goals decide

/-- Type part of the plan's `C15_pref_ranges` (DESIGN 5, C15): every type preference the switch can produce is ≤ 126
    (in fact ≤ 120), for every candidate, reliable or not. -/
theorem C15_type_pref_le (c : Cand) (reliable nat : Bool) :
    (typePreference c reliable nat).toNat ≤ 126 := by
  have h := baseTypePref_le c nat
  rw [typePreference_eq]
  split
  · rw [UInt8.toNat_div]; exact Nat.le_trans (Nat.div_le_self _ _) (by omega)
  · omega

/-- Local part of `C15_pref_ranges`: under the kernel's own `g_assert`s the local preference packs
    direction (3 bits), turn (3 bits) and address index (6 bits) without overlap. -/
theorem C15_local_pref_value (d t o : UInt32)
    (h : nice_candidate_ice_local_preference_full_pre d t o = true) :
    (nice_candidate_ice_local_preference_full d t o).toNat = d.toNat * 8192 + t.toNat * 64 + o.toNat
    ∧ d.toNat < 8 ∧ t.toNat < 8 ∧ o.toNat < 64 := by
  unfold nice_candidate_ice_local_preference_full_pre at h
  simp only [Bool.and_eq_true, decide_eq_true_eq] at h
  obtain ⟨⟨ho, ht⟩, hd⟩ := h
  have ho' : o.toNat < 64 := by simpa [UInt32.lt_iff_toNat_lt] using ho
  have ht' : t.toNat < 8 := by simpa [UInt32.lt_iff_toNat_lt] using ht
  have hd' : d.toNat < 8 := by simpa [UInt32.lt_iff_toNat_lt] using hd
  refine ⟨?_, hd', ht', ho'⟩
  unfold nice_candidate_ice_local_preference_full
  simp only [UInt32.toNat_toUInt16, UInt32.toNat_add, UInt32.toNat_shiftLeft, UInt32.toNat_ofNat, Nat.reducePow,
    Nat.reduceMod]
  omega

theorem C15_local_pref_le (d t o : UInt32)
    (h : nice_candidate_ice_local_preference_full_pre d t o = true) :
    (nice_candidate_ice_local_preference_full d t o).toNat ≤ 65535 := by
  have := C15_local_pref_value d t o h; omega

/-- **C15_type_rank (dominance).**  A strictly larger type preference wins whatever the local
    preferences and component ids are. -/
theorem C15_type_dominates (tp tp' lp lp' c c' : UInt32)
    (h : tp'.toNat < tp.toNat) (htp : tp.toNat ≤ 126)
    (hlp : lp.toNat ≤ 65535) (hlp' : lp'.toNat ≤ 65535)
    (hc1 : 1 ≤ c.toNat) (hc : c.toNat ≤ 256) (hc1' : 1 ≤ c'.toNat) (hc' : c'.toNat ≤ 256) :
    nice_candidate_ice_priority_full tp' lp' c' < nice_candidate_ice_priority_full tp lp c := by
  rw [UInt32.lt_iff_toNat_lt, C15_candidate_formula tp lp c htp hlp hc1 hc,
    C15_candidate_formula tp' lp' c' (by omega) hlp' hc1' hc']
  omega

/-- **C15_type_rank (order of the table).**  For equal transport and reliability the type
    preferences rank host > peer-reflexive > server-reflexive > relayed (UDP relay > other relay),
    also after the halving branch. -/
theorem C15_type_rank (transport : Nat) (cid tpf ipf : UInt32) (udpRelay reliable : Bool) :
    let mk := fun ty u => ({ type := ty, transport := transport, componentId := cid,
                             turnIsUdp := u, turnPref := tpf, ipPref := ipf } : Cand)
    typePreference (mk NICE_CANDIDATE_TYPE_HOST udpRelay) reliable false
      > typePreference (mk NICE_CANDIDATE_TYPE_PEER_REFLEXIVE udpRelay) reliable false ∧
    typePreference (mk NICE_CANDIDATE_TYPE_PEER_REFLEXIVE udpRelay) reliable false
      > typePreference (mk NICE_CANDIDATE_TYPE_SERVER_REFLEXIVE udpRelay) reliable false ∧
    typePreference (mk NICE_CANDIDATE_TYPE_SERVER_REFLEXIVE udpRelay) reliable false
      > typePreference (mk NICE_CANDIDATE_TYPE_RELAYED udpRelay) reliable false := by
  intro mk
  simp only [mk, typePreference_eq, baseTypePref, NICE_CANDIDATE_TYPE_HOST, NICE_CANDIDATE_TYPE_PEER_REFLEXIVE,
    NICE_CANDIDATE_TYPE_SERVER_REFLEXIVE, NICE_CANDIDATE_TYPE_RELAYED]
  generalize (reliable && decide (transport = 0) || !reliable && decide (transport ≠ 0)) = halve
  cases halve <;> cases udpRelay <;> simp

/-- **C15_pair_formula.**  pair priority = 2^32·min(G,D) + 2·max(G,D) + (G>D) for all 32-bit
    priorities, without wrap-around in 64 bits — except the single pair G = D = 2^32−1, whose
    RFC value 2^64 + 2^32 − 2 does not fit the 64-bit priority field at all (see the `example`
    below; RFC 8445 candidate priorities are < 2^31, so this is a limit of the 64-bit
    representation, not of libnice). -/
theorem C15_pair_formula (G D : UInt32) (hne : ¬ (G.toNat = 4294967295 ∧ D.toNat = 4294967295)) :
    (nice_candidate_pair_priority G D).toNat
      = 2 ^ 32 * min G.toNat D.toNat + 2 * max G.toNat D.toNat + (if G.toNat > D.toNat then 1 else 0) := by
  unfold nice_candidate_pair_priority
  simp only
  have hG := G.toNat_lt
  have hD := D.toNat_lt
  have hmax : ((if decide (G > D) then G else D).toUInt64).toNat = max G.toNat D.toNat := by
    by_cases h : G > D
    · have h' : D.toNat < G.toNat := UInt32.lt_iff_toNat_lt.mp h
      simp [h]; omega
    · have h' : ¬ D.toNat < G.toNat := fun x => h (UInt32.lt_iff_toNat_lt.mpr x)
      simp [h]; omega
  have hmin : ((if decide (G < D) then G else D).toUInt64).toNat = min G.toNat D.toNat := by
    by_cases h : G < D
    · have h' : G.toNat < D.toNat := UInt32.lt_iff_toNat_lt.mp h
      simp [h]; omega
    · have h' : ¬ G.toNat < D.toNat := fun x => h (UInt32.lt_iff_toNat_lt.mpr x)
      simp [h]; omega
  have hbit : (UInt64.ofInt (if decide (G > D) then (1 : Int32) else (0 : Int32)).toInt).toNat
      = (if G.toNat > D.toNat then 1 else 0) := by
    by_cases h : G > D
    · have h' : D.toNat < G.toNat := UInt32.lt_iff_toNat_lt.mp h
      simp [h, h']
    · have h' : ¬ D.toNat < G.toNat := fun x => h (UInt32.lt_iff_toNat_lt.mpr x)
      simp [h, h']; rfl
  have e1 : ((4294967296 : UInt64) * (if decide (G < D) then G else D).toUInt64).toNat
      = 4294967296 * min G.toNat D.toNat := by
    rw [UInt64.toNat_mul, hmin]; show 4294967296 * _ % 18446744073709551616 = _; omega
  have e2 : ((2 : UInt64) * (if decide (G > D) then G else D).toUInt64).toNat
      = 2 * max G.toNat D.toNat := by
    rw [UInt64.toNat_mul, hmax]; show 2 * _ % 18446744073709551616 = _; omega
  rw [UInt64.toNat_add, UInt64.toNat_add, e1, e2, hbit]
  show (_ % 18446744073709551616 + _) % 18446744073709551616 = _
  have hm : min G.toNat D.toNat < 4294967295 := by omega
  have hM : max G.toNat D.toNat < 4294967296 := by omega
  clear hne hmax hmin hbit e1 e2   -- used up; `omega` would only normalise them again
  have hc : (if G.toNat > D.toNat then 1 else 0) ≤ 1 := by split <;> omega   -- to `omega` the `if` is an atom
  omega

/-- **C15_pair_symmetric.**  Both agents compute the same value for the same pair: the controlling
    agent's (local, remote) is the controlled agent's (remote, local). -/
theorem C15_pair_symmetric (a b : UInt32) :
    agentPairPriority true a b = agentPairPriority false b a := by
  simp [agentPairPriority]

/-- for candidate priorities below 2^31 (every priority libnice assigns, by `C15_candidate_range`)
    a pair with a strictly larger min(G,D) ranks strictly higher.  (Without the bound `2·max` can
    carry into the `min` field — that is RFC 8445's formula, not a libnice artefact.) -/
theorem C15_pair_min_dominates (G D G' D' : UInt32) (h : min G'.toNat D'.toNat < min G.toNat D.toNat)
    (hb : max G'.toNat D'.toNat < 2 ^ 31) (hb2 : max G.toNat D.toNat < 2 ^ 31) :
    nice_candidate_pair_priority G' D' < nice_candidate_pair_priority G D := by
  rw [UInt64.lt_iff_toNat_lt, C15_pair_formula _ _ (by omega), C15_pair_formula _ _ (by omega)]
  have hc : (if G.toNat > D.toNat then 1 else 0) ≤ 1 := by split <;> omega
  have hc' : (if G'.toNat > D'.toNat then 1 else 0) ≤ 1 := by split <;> omega
  omega

def Sorted (l : List Pair) : Prop := l.Pairwise (fun a b => a.priority ≥ b.priority)

theorem mem_insertSorted (p : Pair) (l : List Pair) (x : Pair) :
    x ∈ insertSorted p l ↔ x = p ∨ x ∈ l := by
  induction l with
  | nil => simp [insertSorted]
  | cons y ys ih =>
    unfold insertSorted
    split
    · simp [ih]; constructor
      · rintro (h | h | h) <;> simp [h]
      · rintro (h | h | h) <;> simp [h]
    · simp

/-- `g_slist_insert_sorted` with `conn_check_compare` keeps the list in descending priority order -/
theorem C15_insert_sorted (p : Pair) (l : List Pair) (h : Sorted l) : Sorted (insertSorted p l) := by
  induction l with
  | nil => simp [insertSorted, Sorted]
  | cons y ys ih =>
    unfold Sorted at h ih ⊢
    rw [List.pairwise_cons] at h
    unfold insertSorted
    split
    · rename_i hgt
      rw [List.pairwise_cons]
      refine ⟨?_, ih h.2⟩
      intro x hx
      rcases (mem_insertSorted p ys x).mp hx with rfl | hx
      · exact UInt64.le_of_lt hgt
      · exact h.1 x hx
    · rename_i hle
      have hle' : p.priority ≥ y.priority := by
        rw [ge_iff_le, UInt64.le_iff_toNat_le]; rw [gt_iff_lt, UInt64.lt_iff_toNat_lt] at hle; omega
      rw [List.pairwise_cons]
      refine ⟨?_, ?_⟩
      · intro x hx
        rcases List.mem_cons.mp hx with rfl | hx
        · exact hle'
        · exact UInt64.le_trans (h.1 x hx) hle'
      · rw [List.pairwise_cons]; exact h

/-- after `recalculate_pair_priorities` (role switch) the list is sorted in descending order of the *new* priorities -/
theorem C15_recalc_sorted (controlling : Bool) (l : List Pair) : Sorted (recalc controlling l) := by
  unfold Sorted recalc
  have key := List.pairwise_mergeSort (le := fun a b : Pair => decide (a.priority ≥ b.priority))
    (by intro a b c hab hbc
        simp only [decide_eq_true_eq] at *
        exact UInt64.le_trans hbc hab)
    (by intro a b
        simp only [Bool.or_eq_true, decide_eq_true_eq]
        rw [ge_iff_le, ge_iff_le, UInt64.le_iff_toNat_le, UInt64.le_iff_toNat_le]; omega)
    (l.map fun p => { p with priority := agentPairPriority controlling p.localPrio p.remotePrio })
  exact key.imp (by intro a b h; simpa using h)

theorem C15_recalc_perm (controlling : Bool) (l : List Pair) :
    (recalc controlling l).map (fun p => (p.localPrio, p.remotePrio))
      |>.Perm (l.map (fun p => (p.localPrio, p.remotePrio))) := by
  unfold recalc
  have := (List.mergeSort_perm
    (l.map fun p => { p with priority := agentPairPriority controlling p.localPrio p.remotePrio })
    (fun a b => decide (a.priority ≥ b.priority))).map (fun p => (p.localPrio, p.remotePrio))
  simpa [List.map_map, Function.comp_def] using this

inductive Op where
  | add (lp rp : UInt32)
  | switchRole
def applyOp (s : Bool × List Pair) : Op → Bool × List Pair
  | .add lp rp => (s.1, addPair s.1 lp rp s.2)
  | .switchRole => (!s.1, recalc (!s.1) s.2)

/-- sorted, and every priority is the one the current role dictates (so the order is the RFC order for that role) -/
def Consistent (s : Bool × List Pair) : Prop :=
  Sorted s.2 ∧ ∀ p ∈ s.2, p.priority = agentPairPriority s.1 p.localPrio p.remotePrio

theorem applyOp_consistent (s : Bool × List Pair) (o : Op) (h : Consistent s) :
    Consistent (applyOp s o) := by
  cases o with
  | add lp rp =>
    refine ⟨C15_insert_sorted _ _ h.1, ?_⟩
    intro p hp
    rcases (mem_insertSorted _ _ p).mp hp with rfl | hp
    · rfl
    · exact h.2 p hp
  | switchRole =>
    refine ⟨C15_recalc_sorted _ _, ?_⟩
    intro p hp
    simp only [applyOp, recalc] at hp
    have hp' := (List.mergeSort_perm _ _).mem_iff.mp hp
    simp only [List.mem_map] at hp'
    obtain ⟨q, _, rfl⟩ := hp'
    rfl

/-- `C15_list_sorted` from any consistent state -/
theorem foldl_consistent (ops : List Op) (s : Bool × List Pair) (h : Consistent s) :
    Consistent (ops.foldl applyOp s) :=
  List.foldlRecOn ops applyOp h fun s h o _ => applyOp_consistent s o h

/-- **C15_list_sorted.**  At every step of every history of pair additions and role switches the
    check list is in descending pair-priority order and every priority is the current role's. -/
theorem C15_list_sorted (init : Bool) (ops : List Op) :
    Consistent (ops.foldl applyOp (init, [])) :=
  foldl_consistent ops _ ⟨by simp [Sorted], by simp⟩

example : (nice_candidate_ice_priority_full 120 8192 1).toNat = 2 ^ 24 * 120 + 2 ^ 8 * 8192 + 255 := by decide
example : nice_candidate_pair_priority 0x80000000 1 = 0x100000000 * 1 + 2 * 0x80000000 + 1 := by decide
example : nice_candidate_ice_local_preference_full_pre 6 7 63 = true := by decide
example : ((([Op.add 5 9, .add 7 3, .add 1 1] : List Op).foldl applyOp (true, [])).2.map (·.priority))
    = [21474836498, 12884901903, 4294967298] := by decide
/-- the excluded pair: the RFC value does not fit 64 bits and the C result is its residue -/
example : nice_candidate_pair_priority 0xffffffff 0xffffffff = 0xfffffffe := by decide

end Nice.Props.C15
