/-
  Lookup proofs.  `Built a buf w` — the first `w` bytes of `buf` are a well-formed message — is the
  invariant both sides share: the length validation establishes it, the builder maintains it.  On such a
  buffer `stun_message_find` is the reference lookup over the walk (`find_walk`).
-/
import Nice.Proofs.StunFraming
namespace Nice.Stun
open Nice.Gen Nice.Spec.Stun

/-- `refFind` in the order `findLoop` tests: the type first, then the stop at M-I / FINGERPRINT -/
def refFindRec (t : Nat) : List Attr → Option Attr
  | [] => none
  | a :: rest =>
    if a.type = t then some a
    else if a.type = MESSAGE_INTEGRITY ∧ t ≠ FINGERPRINT then none
    else if a.type = FINGERPRINT then none
    else refFindRec t rest

theorem refFind_eq_rec (t : Nat) (attrs : List Attr) : refFind t attrs = refFindRec t attrs := by
  induction attrs with
  | nil => rfl
  | cons a rest ih =>
    unfold refFind at ih ⊢
    unfold visibleFor refFindRec
    by_cases hf : a.type = FINGERPRINT
    · rw [if_pos hf]
      by_cases ht : a.type = t
      · simp [ht]
      · simp [hf]
    · rw [if_neg hf]
      by_cases hm : a.type = MESSAGE_INTEGRITY ∧ t ≠ FINGERPRINT
      · rw [if_pos hm]
        by_cases ht : a.type = t
        · simp [ht]
        · simp [hm]
      · rw [if_neg hm]
        by_cases ht : a.type = t
        · simp [ht]
        · simp only [List.find?_cons, ht, decide_false, if_neg hm, if_neg hf]
          exact ih

theorem refFindRec_mem {t : Nat} {attrs : List Attr} {x : Attr} (h : refFindRec t attrs = some x) :
    x ∈ attrs := by
  induction attrs with
  | nil => cases h
  | cons y rest ih =>
    unfold refFindRec at h
    split at h
    · injection h with h; subst h; simp
    · split at h
      · cases h
      · split at h
        · cases h
        · exact List.mem_cons_of_mem _ (ih h)

theorem refFindRec_append_new (T : Nat) (attrs : List Attr) (new : Attr) (hnew : new.type = T)
    (hfirst : ∀ x ∈ attrs, x.type ≠ T ∧ x.type ≠ MESSAGE_INTEGRITY ∧ x.type ≠ FINGERPRINT) :
    refFindRec T (attrs ++ [new]) = some new := by
  induction attrs with
  | nil => simp [refFindRec, hnew]
  | cons x rest ih =>
    obtain ⟨h1, h2, h3⟩ := hfirst x (by simp)
    simp only [List.cons_append, refFindRec]
    rw [if_neg h1, if_neg (fun h => h2 h.1), if_neg h3]
    exact ih (fun y hy => hfirst y (by simp [hy]))

theorem swapType_toNat (a : Option Cfg) (t : UInt16) :
    (swapType a t).toNat = swapRealmNonce (isOC2007 a) t.toNat := by
  unfold swapType swapRealmNonce
  cases isOC2007 a
  · simp
  · simp only [if_true]
    by_cases h1 : t = tREALM
    · subst h1; decide
    · have h1' : ¬ t.toNat = 0x14 := fun h => h1 (UInt16.toNat_inj.mp (by rw [h]; decide))
      rw [if_neg (by simpa using h1), if_neg h1']
      by_cases h2 : t = tNONCE
      · subst h2; decide
      · have h2' : ¬ t.toNat = 0x15 := fun h => h2 (UInt16.toNat_inj.mp (by rw [h]; decide))
        rw [if_neg (by simpa using h2), if_neg h2']

theorem tMI_toNat : tMI.toNat = MESSAGE_INTEGRITY := by decide
theorem tFPR_toNat : tFPR.toNat = FINGERPRINT := by decide

theorem beq_ofNat {n : Nat} (hn : n < 65536) (t : UInt16) : (UInt16.ofNat n == t) = decide (n = t.toNat) := by
  rw [Bool.eq_iff_iff, beq_iff_eq, decide_eq_true_iff, ← UInt16.toNat_inj, UInt16.toNat_ofNat_of_lt' hn]

theorem findLoop_walk {b : Bytes} {noalign : Bool} {L off : Nat} {as : List Attr} (type : UInt16)
    (hL : L ≤ b.size) (h : Walk b (!noalign) L off as) :
    findLoop b noalign type L off =
      .ok ((refFindRec type.toNat as).map fun a => (a.off, UInt16.ofNat a.len)) := by
  induction h with
  | nil => rw [findLoop, if_neg (Nat.lt_irrefl _)]; rfl
  | @cons off as hle hw ih =>
    have hfp : (type != tFPR) = decide (type.toNat ≠ FINGERPRINT) := by
      rw [← tFPR_toNat, Bool.eq_iff_iff]; simp [UInt16.toNat_inj]
    rw [findLoop, if_pos (by omega), getw_eq (by omega),
      getw_eq (by simp [STUN_ATTRIBUTE_TYPE_LEN]; omega)]
    -- the loop's tests on 16-bit words become the reference lookup's on numbers
    simp only [STUN_ATTRIBUTE_TYPE_LEN, STUN_ATTRIBUTE_VALUE_POS, getwN_ofNat, step_eq noalign _ (getwN_lt _ _),
      beq_ofNat (getwN_lt _ _), tMI_toNat, tFPR_toNat, hfp, ih, refFindRec, Bool.and_eq_true, decide_eq_true_eq]
    split
    · rfl
    · split
      · rfl
      · split <;> rfl

/-- a message of (16-bit) length `w` at the start of the buffer whose body tiles -/
structure Built (a : Option Cfg) (buf : Bytes) (w : UInt16) : Prop where
  len_ok : messageLength buf = .ok w
  ge20 : 20 ≤ w.toNat
  le_size : w.toNat ≤ buf.size
  top : byteN buf 0 / 64 = 0
  tiles : Tiles (!noAlign a) (seg buf 20 (w.toNat - 20))
  mult4 : noAlign a = false → w.toNat % 4 = 0

/-- `Built` is the grammar's `WellFormed` on the buffer (`20 ≤ w`: the 16-bit length did not wrap) -/
theorem built_iff (a : Option Cfg) (buf : Bytes) (w : UInt16) :
    Built a buf w ↔ WellFormed (!noAlign a) buf.toList w.toNat := by
  rw [wellFormed_iff]
  have hw := w.toNat_lt
  have hg := getwN_lt buf 2
  have key : 4 ≤ buf.size → (messageLength buf = .ok w ↔ w.toNat = (getwN buf 2 + 20) % 65536) := by
    intro h4
    rw [messageLength_eq h4, Except.ok.injEq, ← UInt16.toNat_inj, UInt16.toNat_add, getwN_ofNat]
    exact eq_comm
  constructor
  · intro ⟨h1, h2, h3, h4, h5, h6⟩
    have := (key (by omega)).mp h1
    exact ⟨by omega, h4, by omega, fun hp => h6 (by simpa using hp), h3, h5⟩
  · intro ⟨h4, hb, hL, hp, hle, ht⟩
    exact ⟨(key h4).mpr (by omega), by omega, hle, hb, ht, fun hn => hp (by simp [hn])⟩

theorem built_of_wellFormed {a : Option Cfg} {buf : Bytes} {L : Nat} (h : WellFormed (!noAlign a) buf.toList L)
    (hL : L < 65536) : Built a buf (UInt16.ofNat L) :=
  (built_iff _ _ _).mpr (by rw [UInt16.toNat_ofNat_of_lt' hL]; exact h)

namespace Built
variable {a : Option Cfg} {buf b' : Bytes} {w : UInt16}

theorem walk (hB : Built a buf w) : ∃ as, Walk buf (!noAlign a) w.toNat 20 as :=
  (tiles_iff_walk hB.le_size hB.ge20).mp hB.tiles

theorem congr (hB : Built a buf w) (hs : w.toNat ≤ b'.size)
    (h : ∀ j, j < w.toNat → (j < 4 ∨ 20 ≤ j) → b'.getD j 0 = buf.getD j 0) : Built a b' w := by
  have hge := hB.ge20
  have hle := hB.le_size
  have hg : getwN b' 2 = getwN buf 2 := getwN_congr (h 2 (by omega) (by omega)) (h 3 (by omega) (by omega))
  refine ⟨?_, hge, hs, by unfold byteN; rw [h 0 (by omega) (by omega)]; exact hB.top, ?_, hB.mult4⟩
  · rw [messageLength_eq (by omega), hg, ← messageLength_eq (by omega)]; exact hB.len_ok
  · rw [seg_ext (b2 := buf) (by omega) (by omega) fun j h20 hj => h j (by omega) (Or.inr h20)]; exact hB.tiles

theorem walk_of_parse (hB : Built a buf w) {as : List Attr}
    (hA : parseFrom (!noAlign a) 20 (seg buf 20 (w.toNat - 20)) = some as) : Walk buf (!noAlign a) w.toNat 20 as :=
  (parse_iff_walk hB.le_size hB.ge20).mp hA

end Built

theorem built_prefix (a : Option Cfg) (buf : Bytes) (w : UInt16) (hB : Built a buf w) :
    Built a (buf.extract 0 w.toNat) w ∧ (buf.extract 0 w.toNat).size = w.toNat := by
  have hle := hB.le_size
  have hs : (buf.extract 0 w.toNat).size = w.toNat := by simp; omega
  exact ⟨hB.congr (by omega) fun j hj _ => getD_extract0 buf _ j hj hle, hs⟩

theorem find_walk {a : Option Cfg} {buf : Bytes} {w : UInt16} {as : List Attr} (t : UInt16) (hB : Built a buf w)
    (hw : Walk buf (!noAlign a) w.toNat 20 as) :
    find a buf t = .ok ((refFindRec (swapType a t).toNat as).map fun x => (x.off, UInt16.ofNat x.len)) := by
  unfold find
  rw [hB.len_ok]
  exact findLoop_walk _ hB.le_size hw

theorem find_built_inside (a : Option Cfg) (buf : Bytes) (w t : UInt16) (hB : Built a buf w) :
    ∃ r, find a buf t = .ok r ∧ ∀ off len, r = some (off, len) → 24 ≤ off ∧ off + len.toNat ≤ w.toNat := by
  obtain ⟨as, hw⟩ := hB.walk
  refine ⟨_, find_walk t hB hw, fun off len hr => ?_⟩
  cases hx : refFindRec (swapType a t).toNat as with
  | none => rw [hx] at hr; cases hr
  | some x =>
    rw [hx] at hr; cases hr
    have := hw.inside x (refFindRec_mem hx)
    rw [UInt16.toNat_ofNat_of_lt' this.2.2]; omega

theorem find_built_read {a : Option Cfg} {buf : Bytes} {w : UInt16} (hB : Built a buf w) (t : UInt16) :
    ∃ r, find a buf t = .ok r ∧ ∀ off len, r = some (off, len) →
      rdBytes buf off len.toNat = .ok (buf.extract off (off + len.toNat)) := by
  obtain ⟨r, hf, hin⟩ := find_built_inside a buf w t hB
  exact ⟨r, hf, fun off len e => rdBytes_eq (Nat.le_trans (hin off len e).2 hB.le_size)⟩

theorem find_prefix (a : Option Cfg) (buf : Bytes) (w t : UInt16) (hB : Built a buf w) :
    find a (buf.extract 0 w.toNat) t = find a buf t := by
  obtain ⟨as, hw⟩ := hB.walk
  rw [find_walk t hB hw, find_walk t (built_prefix a buf w hB).1
    (hw.congr fun j _ hj => getD_extract0 buf _ j hj hB.le_size)]

theorem parseAttrs_eq {pad : Bool} {bs : B} {L : Nat} (h : WellFormed pad bs L) :
    parseAttrs pad bs = parseFrom pad 20 ((bs.take L).drop 20) := by
  obtain ⟨b0, b1, l0, l1, rest, hl, _, hL, _, hle, _⟩ := h
  subst hl
  simp only [parseAttrs, ← hL, if_pos hle]

theorem built_wellformed (a : Option Cfg) (buf : Bytes) (w : UInt16) (hB : Built a buf w) :
    validateLen (buf.extract 0 w.toNat) (!noAlign a) = .ok (.len w.toNat) ∧
    ∃ attrs, parseAttrs (!noAlign a) (buf.extract 0 w.toNat).toList = some attrs := by
  obtain ⟨hBp, hs⟩ := built_prefix a buf w hB
  have hwf := (built_iff _ _ _).mp hBp
  refine ⟨validateLen_iff_wellFormed.mpr hwf, ?_⟩
  rw [parseAttrs_eq hwf, drop_take_toList]
  exact (tiles_iff_parse _ 20 _).mp hBp.tiles

end Nice.Stun
