/-
  Pseudo-TCP proofs, bottom layer: the glue between plain statements and Std.Do triples (`⇓?`: if the call does not fault),
  and each PseudoTcpFifo operation as an equation, with the ring bounds it keeps.
-/
import Nice.Model.PTcp
import Std.Do
import Std.Tactic.Do
namespace Nice.Proofs.PTcp
open Nice.PTcp Nice.Gen Std.Do

set_option mvcgen.warning false

theorem of_triple_pre {α : Type} {x : R α} {P : Prop} {Q : α → Prop} (h : ⦃⌜P⌝⦄ x ⦃⇓? a => ⌜Q a⌝⦄) (hp : P)
    (a : α) (hx : x = .ok a) : Q a := by
  subst hx
  have h2 : ⦃⌜P⌝⦄ (pure a : R α) ⦃⇓? a => ⌜Q a⌝⦄ := h
  simp only [Triple, WP.pure] at h2
  simpa using h2 hp

theorem to_triple {α : Type} {x : R α} {P : Prop} {Q : α → Prop} (h : P → ∀ a, x = .ok a → Q a) :
    ⦃⌜P⌝⦄ x ⦃⇓? a => ⌜Q a⌝⦄ := by
  cases x with
  | error e =>
    have : (Except.error e : R α) = MonadExceptOf.throw e := rfl
    rw [this]
    simp [Triple, WP.throw_Except, PostCond.mayThrow]
  | ok a =>
    have : (Except.ok a : R α) = pure a := rfl
    rw [this]
    simp only [Triple, WP.pure]
    simpa using fun hp => h hp a rfl

@[spec]
theorem fault_spec {α : Type} (f : Fault) (Q : PostCond α (.except Fault .pure)) :
    Triple (m := Except Fault) (ps := .except Fault .pure) (fault f : Except Fault α) (spred(Q.2.1 f)) Q := by
  have : (fault f : Except Fault α) = MonadExceptOf.throw f := rfl
  rw [this]
  simp [Triple.iff]

theorem triv_spec {α : Type} (x : R α) : ⦃⌜True⌝⦄ x ⦃⇓? _ => ⌜True⌝⦄ := to_triple fun _ _ _ => trivial

theorem bind_ok {α β : Type} {x : R α} {f : α → R β} {b : β} (h : (x >>= f) = .ok b) :
    ∃ a, x = .ok a ∧ f a = .ok b := by
  cases x with
  | error e => cases h
  | ok a => exact ⟨a, rfl, h⟩

theorem ok_bind {α β : Type} {x : R α} {f : α → R β} {a : α} {b : β} (h1 : x = .ok a) (h2 : f a = .ok b) :
    (x >>= f) = .ok b := by
  rw [h1]; exact h2

/-- `split at h` without the traversal of `h` -/
theorem ite_ok {α : Type} {c : Prop} [Decidable c] {x y : R α} {a : α} (h : (if c then x else y) = .ok a) :
    (c ∧ x = .ok a) ∨ (¬ c ∧ y = .ok a) := by
  split at h
  · exact .inl ⟨‹_›, h⟩
  · exact .inr ⟨‹_›, h⟩

/-- piece 1 of the invariant (DESIGN 5a): `data_length <= buffer_length`, `read_position < buffer_length` -/
def FifoOk (b : Fifo) : Prop := b.data ≤ b.buf.size ∧ b.rpos < b.buf.size

/-- the size below 2^64: there `gsub`, the model's `gsize` subtraction, is the subtraction of naturals -/
def FOk (b : Fifo) : Prop := FifoOk b ∧ b.buf.size < 2 ^ 64

theorem gsub_of_le {a b : Nat} (h : b ≤ a) (ha : a < 2 ^ 64) : gsub a b = a - b := by
  unfold gsub
  have hb : b % 2 ^ 64 = b := Nat.mod_eq_of_lt (by omega)
  rw [hb]
  omega

theorem blit_size (src : Array UInt8) (so : Nat) (dst : Array UInt8) (d0 n : Nat) :
    (Fifo.blit src so dst d0 n).size = dst.size := by
  induction n generalizing so dst d0 with
  | zero => rfl
  | succ n ih => simp [Fifo.blit, ih]

theorem memcpy_size {site dst d0 src s0 n r} (h : Fifo.memcpy site dst d0 src s0 n = .ok r) : r.size = dst.size := by
  unfold Fifo.memcpy at h
  rcases ite_ok h with ⟨_, h⟩ | ⟨_, h⟩
  · cases h; rfl
  · rcases ite_ok h with ⟨_, h⟩ | ⟨_, h⟩
    · cases h; exact blit_size ..
    · cases h

theorem fifo_init_ok (n : Nat) (h : 0 < n) : FifoOk (Fifo.init n) := by
  simp [FifoOk, Fifo.init, h]

theorem u32_lt_64 (n : UInt32) : n.toNat < 2 ^ 64 := Nat.lt_trans n.toNat_lt (by decide)

theorem fok_init (n : Nat) (h0 : 0 < n) (h : n < 2 ^ 64) : FOk (Fifo.init n) :=
  ⟨fifo_init_ok n h0, by simpa [Fifo.init] using h⟩

theorem consumeReadData_eq {b b' : Fifo} {n : Nat} (h : b.consumeReadData n = .ok b') :
    n ≤ b.data ∧ b.cap ≠ 0 ∧ b' = { b with rpos := (b.rpos + n) % b.cap, data := b.data - n } := by
  unfold Fifo.consumeReadData at h
  rcases ite_ok h with ⟨_, h⟩ | ⟨h1, h⟩
  · cases h
  · rcases ite_ok h with ⟨_, h⟩ | ⟨h2, h⟩
    · cases h
    · cases h; exact ⟨Decidable.not_not.mp h1, h2, rfl⟩

theorem consumeReadData_ok {b b' : Fifo} {n : Nat} (hb : FOk b) (h : b.consumeReadData n = .ok b') :
    FOk b' ∧ b'.buf = b.buf ∧ b'.data = b.data - n ∧ n ≤ b.data := by
  obtain ⟨h1, h2, rfl⟩ := consumeReadData_eq h
  exact ⟨⟨⟨Nat.le_trans (Nat.sub_le ..) hb.1.1, Nat.mod_lt _ (Nat.pos_of_ne_zero h2)⟩, hb.2⟩, rfl, rfl, h1⟩

theorem consumeWriteBuffer_eq {b b' : Fifo} {n : Nat} (h : b.consumeWriteBuffer n = .ok b') :
    n ≤ gsub b.cap b.data ∧ b' = { b with data := b.data + n } := by
  unfold Fifo.consumeWriteBuffer at h
  rcases ite_ok h with ⟨_, h⟩ | ⟨h1, h⟩
  · cases h
  · cases h; exact ⟨Decidable.not_not.mp h1, rfl⟩

theorem consumeWriteBuffer_ok {b b' : Fifo} {n : Nat} (hb : FOk b) (h : b.consumeWriteBuffer n = .ok b') :
    FOk b' ∧ b'.buf = b.buf ∧ b'.data = b.data + n := by
  obtain ⟨h1, rfl⟩ := consumeWriteBuffer_eq h
  rw [Fifo.cap, gsub_of_le hb.1.1 hb.2] at h1
  have := hb.1.1
  exact ⟨⟨⟨by show b.data + n ≤ b.buf.size; omega, hb.1.2⟩, hb.2⟩, rfl, rfl⟩

theorem writeOffset_eq {b b' : Fifo} {src so n off c} (h : b.writeOffset src so n off = .ok (c, b')) :
    b.cap ≠ 0 ∧ ((b.data + off ≥ b.cap ∧ c = 0 ∧ b' = b) ∨
      (b.data + off < b.cap ∧ c = min n (gsub (gsub b.cap b.data) off) ∧ ∃ buf1 buf2,
        Fifo.memcpy "fifo_write_offset" b.buf ((b.rpos + b.data + off) % b.cap) src so
          (min c (gsub b.cap ((b.rpos + b.data + off) % b.cap))) = .ok buf1 ∧
        Fifo.memcpy "fifo_write_offset" buf1 0 src (so + min c (gsub b.cap ((b.rpos + b.data + off) % b.cap)))
          (c - min c (gsub b.cap ((b.rpos + b.data + off) % b.cap))) = .ok buf2 ∧
        b' = { b with buf := buf2 })) := by
  unfold Fifo.writeOffset at h
  rcases ite_ok h with ⟨_, h⟩ | ⟨h0, h⟩
  · cases h
  · refine ⟨h0, ?_⟩
    rcases ite_ok h with ⟨h1, h⟩ | ⟨h1, h⟩
    · cases h; exact .inl ⟨h1, rfl, rfl⟩
    · obtain ⟨buf1, m1, h⟩ := bind_ok h
      obtain ⟨buf2, m2, h⟩ := bind_ok h
      cases h
      exact .inr ⟨Nat.lt_of_not_le h1, rfl, buf1, buf2, m1, m2, rfl⟩

theorem writeOffset_ok {b b' : Fifo} {src so n off c} (hb : FOk b) (h : b.writeOffset src so n off = .ok (c, b')) :
    FOk b' ∧ b'.buf.size = b.buf.size ∧ b'.data = b.data ∧ b'.rpos = b.rpos := by
  rcases (writeOffset_eq h).2 with ⟨_, _, rfl⟩ | ⟨_, _, buf1, buf2, m1, m2, rfl⟩
  · exact ⟨hb, rfl, rfl, rfl⟩
  · have sz : buf2.size = b.buf.size := (memcpy_size m2).trans (memcpy_size m1)
    exact ⟨⟨⟨sz ▸ hb.1.1, sz ▸ hb.1.2⟩, sz ▸ hb.2⟩, sz, rfl, rfl⟩

theorem writeOffset_count {b b' : Fifo} {src so n off c} (hb : FOk b)
    (h : b.writeOffset src so n off = .ok (c, b')) : c = min n (b.buf.size - b.data - off) := by
  have hd := hb.1.1
  have hc := hb.2
  rcases (writeOffset_eq h).2 with ⟨h1, rfl, _⟩ | ⟨h1, hcnt, _⟩
  · simp only [Fifo.cap] at h1; omega
  · simp only [Fifo.cap] at h1
    rw [hcnt, Fifo.cap, gsub_of_le hd hc, gsub_of_le (by omega) (by omega)]

theorem write_eq {b b' : Fifo} {src n c} (h : b.write src n = .ok (c, b')) :
    ∃ b1, b.writeOffset src 0 n 0 = .ok (c, b1) ∧ b' = { b1 with data := b1.data + c } := by
  obtain ⟨⟨c1, b1⟩, hw, h⟩ := bind_ok h
  cases h
  exact ⟨b1, hw, rfl⟩

theorem write_ok {b b' : Fifo} {src n c} (hb : FOk b) (h : b.write src n = .ok (c, b')) :
    FOk b' ∧ b'.buf.size = b.buf.size := by
  obtain ⟨b1, hw, rfl⟩ := write_eq h
  have ⟨ok1, sz, dt, rp⟩ := writeOffset_ok hb hw
  have hcnt := writeOffset_count hb hw
  have := hb.1.1
  exact ⟨⟨⟨by show b1.data + c ≤ b1.buf.size; omega, ok1.1.2⟩, ok1.2⟩, sz⟩

/-- one formula for both outcomes: with nothing buffered behind `off` the two pieces are empty -/
theorem readOffset_eq {b : Fifo} {n off cap o} (hb : FOk b) (h : b.readOffset n off cap = .ok o) :
    o = b.buf.extract ((b.rpos + off) % b.buf.size)
          ((b.rpos + off) % b.buf.size + min (min n (b.data - off)) (b.buf.size - (b.rpos + off) % b.buf.size)) ++
        b.buf.extract 0 (min n (b.data - off) - min (min n (b.data - off)) (b.buf.size - (b.rpos + off) % b.buf.size)) := by
  have hd := hb.1.1
  have hr := hb.1.2
  have hc := hb.2
  unfold Fifo.readOffset at h
  rcases ite_ok h with ⟨_, h⟩ | ⟨_, h⟩
  · cases h
  · rcases ite_ok h with ⟨h1, h⟩ | ⟨h1, h⟩
    · cases h
      rw [show b.data - off = 0 by omega]
      simp [Nat.min_le_left]
    · have hrp : (b.rpos + off) % b.buf.size < b.buf.size := Nat.mod_lt _ (by omega)
      simp only [Fifo.cap, gsub_of_le (by omega : off ≤ b.data) (by omega), gsub_of_le (Nat.le_of_lt hrp) hc] at h
      rcases ite_ok h with ⟨_, h⟩ | ⟨_, h⟩
      · cases h
      · rcases ite_ok h with ⟨_, h⟩ | ⟨_, h⟩ <;> cases h
        rfl

theorem readOffset_size {b : Fifo} {n off cap o} (hb : FOk b) (h : b.readOffset n off cap = .ok o) :
    o.size = min n (b.data - off) := by
  have hd := hb.1.1
  have hrp : (b.rpos + off) % b.buf.size < b.buf.size := Nat.mod_lt _ (by have := hb.1.2; omega)
  rw [readOffset_eq hb h, Array.size_append, Array.size_extract, Array.size_extract]
  omega

theorem read_eq {b b' : Fifo} {n out} (h : b.read n = .ok (out, b')) :
    b.readOffset n 0 n = .ok out ∧ b' = { b with rpos := (b.rpos + out.size) % b.cap, data := gsub b.data out.size } := by
  obtain ⟨o, hro, h⟩ := bind_ok h
  cases h
  exact ⟨hro, rfl⟩

theorem read_ok {b b' : Fifo} {n out} (hb : FOk b) (h : b.read n = .ok (out, b')) :
    FOk b' ∧ b'.buf = b.buf ∧ out.size ≤ n := by
  obtain ⟨hro, rfl⟩ := read_eq h
  have hs := readOffset_size hb hro
  have hd := hb.1.1
  have hr := hb.1.2
  have hc := hb.2
  refine ⟨⟨⟨?_, Nat.mod_lt _ (by simp only [Fifo.cap]; omega)⟩, hc⟩, rfl, by omega⟩
  show gsub b.data out.size ≤ b.buf.size
  rw [gsub_of_le (by omega) (by omega)]; omega

theorem setCapacity_ok {b b' : Fifo} {n r} (hb : FifoOk b) (h : b.setCapacity n = .ok (r, b')) :
    FifoOk b' ∧ (b' = b ∨ (r = true ∧ b'.buf.size = n ∧ b'.data = b.data)) := by
  unfold Fifo.setCapacity at h
  rcases ite_ok h with ⟨_, h⟩ | ⟨h1, h⟩
  · cases h; exact ⟨hb, .inl rfl⟩
  · rcases ite_ok h with ⟨h2, h⟩ | ⟨_, h⟩
    · obtain ⟨b1, m1, h⟩ := bind_ok h
      obtain ⟨b2, m2, h⟩ := bind_ok h
      cases h
      have sz : b2.size = n := by rw [memcpy_size m2, memcpy_size m1, Array.size_replicate]
      have hne : n ≠ b.data := by simpa using h2
      exact ⟨⟨by show b.data ≤ b2.size; omega, by show 0 < b2.size; omega⟩, .inr ⟨rfl, sz, rfl⟩⟩
    · cases h; exact ⟨hb, .inl rfl⟩

theorem setCapacity_fok {b b' : Fifo} {n r} (hb : FOk b) (hn : n < 2 ^ 64) (h : b.setCapacity n = .ok (r, b')) :
    FOk b' := by
  have ⟨h1, h2⟩ := setCapacity_ok hb.1 h
  refine ⟨h1, ?_⟩
  rcases h2 with rfl | ⟨_, e, _⟩
  · exact hb.2
  · rw [e]; exact hn

end Nice.Proofs.PTcp
