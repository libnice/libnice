/- C17: what a read of the TCP base socket below the layers returns while it is healthy -/
import Nice.Drv.Sock
namespace Nice.Props.C17
open Nice.Sock Nice.Drv

def Base.Healthy (b : Base) : Prop := b.err = false ∧ b.eof = false ∧ b.freed = false

theorem read_len (b : Base) (cap : Nat) : (b.read cap).1.2.length ≤ cap := by
  unfold Base.read
  split
  · simp
  · split
    · simp
    · simp only
      split
      · simp
      · simp only [List.length_take]; omega

@[simp] theorem healthy_pend (b : Base) (p : Bytes) : Base.Healthy { b with pend := p } ↔ Base.Healthy b := Iff.rfl

/-- with nothing pending `take` and `drop` give `[]`: the layers' proofs need not split on it -/
theorem read_healthy (b : Base) (h : Base.Healthy b) (cap : Nat) (hc : 0 < cap) :
    b.read cap = ((if b.pend = [] then 0 else 1, b.pend.take cap), { b with pend := b.pend.drop cap }) := by
  obtain ⟨h1, h2, _⟩ := h
  cases hp : b.pend with
  | nil => cases b; simp_all [Base.read]
  | cons x t =>
    have : ¬ (min cap (t.length + 1) = 0) := by omega
    simp [Base.read, h1, hp, this, List.take_eq_take_min, Nat.min_comm]

/-- on the literal record: `{ b with pend := _ }` does not survive `simp` on `b.err`; `hp` also covers `p = r` (`rest = []`) -/
theorem read_whole (p r rest : Bytes) (n : Nat) (hp : p = r ++ rest) (hn : r.length = n) (hpos : 0 < n) :
    (⟨p, false, false, false⟩ : Base).read n = ((1, r), ⟨rest, false, false, false⟩) := by
  subst hp hn
  rw [read_healthy _ ⟨rfl, rfl, rfl⟩ _ hpos]
  simp [List.length_pos_iff.mp hpos]

theorem fixedBuf_exact (bs : Bytes) (n : Nat) (j : UInt8) (h : bs.length = n) : fixedBuf bs n j = bs := by
  simp [fixedBuf, h, List.take_of_length_le]

end Nice.Props.C17
