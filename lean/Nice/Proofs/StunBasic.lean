/-
  The translated kernels in closed form, every bounds-checked read and write of the model as an equation
  under its bound, the bytes a read depends on (`rdBytes_congr`, `macInput_congr`), a buffer range as a list.
  Names, `f` a model function: `f_eq` equation or closed form, `f_ok` no fault (`∃ r, f … = .ok r`), `f_spec` what `f`
  returns, `f_step` concludes `StepOk` (StunAppend), `f_good` `GoodK` or a builder's `BuilderResult` (StunFinish).
-/
import Nice.Model.Stun
import Nice.Spec.StunGrammar
import Nice.Proofs.Bits
namespace Nice.Stun
open Nice.Gen Nice.Spec.Stun

-- 256 cases, evaluated: core reads `<<<` on `Int32` only through `BitVec` (shift count `smod 32`), not as arithmetic
private theorem shl8 : ∀ a : Fin 256, (Int32.ofNat a.val <<< (8 : Int32)) = Int32.ofNat (a.val * 256) := by
  decide +kernel

private theorem or32 (x y : Nat) : Int32.ofNat x ||| Int32.ofNat y = Int32.ofNat (x ||| y) := by
  apply Int32.toBitVec_inj.mp
  simp [Int32.toBitVec_or, Int32.toBitVec_ofNat', BitVec.ofNat_or]

theorem shl8_or (a b : Nat) (hb : b < 256) : (a <<< 8) ||| b = a * 256 + b := by
  rw [← Nat.shiftLeft_add_eq_or_of_lt (i := 8) (by simpa using hb), Nat.shiftLeft_eq]

theorem stun_getw_toNat (p : Nat → UInt8) : (stun_getw p).toNat = (p 0).toNat * 256 + (p 1).toNat := by
  have ha := (p 0).toNat_lt
  have hb := (p 1).toNat_lt
  have h1 := shl8 ⟨(p 0).toNat, ha⟩
  simp only at h1
  unfold stun_getw
  rw [h1, or32]
  have hor : (p 0).toNat * 256 ||| (p 1).toNat = (p 0).toNat * 256 + (p 1).toNat := by
    rw [← shl8_or _ _ hb, Nat.shiftLeft_eq]
  rw [hor, Int32.toInt_ofNat_of_lt (by omega)]
  unfold UInt16.ofInt
  simp
  omega

theorem and3 (x : Nat) : x &&& 3 = x % 4 := by
  have := Nat.and_two_pow_sub_one_eq_mod x 2
  simpa using this

theorem and_mask (x : Nat) (h : x < 2^64) : x &&& 18446744073709551612 = x / 4 * 4 := by
  have := and_field x 2 62
  rwa [Nat.mod_eq_of_lt (by omega)] at this

theorem alignN_eq (n : Nat) (h : n + 3 < 2^64) : alignN n = (n + 3) / 4 * 4 := by
  unfold alignN stun_align
  rw [UInt64.toNat_and, UInt64.toNat_add]
  have h1 : (UInt64.ofNat n).toNat = n := by simp; omega
  rw [h1]
  have : (3 : UInt64).toNat = 3 := rfl
  rw [this, Nat.mod_eq_of_lt (by simpa using h)]
  exact and_mask _ (by simpa using h)

theorem paddingN_eq (n : Nat) (h : n < 2^64) : paddingN n = (4 - n % 4) % 4 := by
  unfold paddingN stun_padding
  have h1 : (UInt64.ofNat n).toNat = n := by simp; omega
  rw [UInt64.toNat_and, UInt64.toNat_sub_of_le, UInt64.toNat_and, h1]
  · show (4 - (n &&& 3)) &&& 3 = _
    rw [and3, and3]
  · rw [UInt64.le_iff_toNat_le, UInt64.toNat_and, h1]
    show n &&& 3 ≤ 4
    rw [and3]; omega

theorem alignN_eq_add_pad (n : Nat) (h : n + 3 < 2^64) : alignN n = n + pad4 n := by
  rw [alignN_eq n h]; unfold pad4; omega

/-- what the attribute loops add to the offset behind the 4-byte attribute header -/
theorem walk_step (pad : Bool) (w : Nat) (hw : w < 65536) :
    (if pad then alignN w else w) = w + padLen pad w := by
  cases pad
  · simp [padLen]
  · simp [padLen, alignN_eq_add_pad w (by omega)]

/-- `walk_step` with the flag negated, as `findLoop` and `findUnknownsLoop` carry it -/
theorem step_eq (noalign : Bool) (w : Nat) (hw : w < 65536) :
    (if noalign then w else alignN w) = w + padLen (!noalign) w := by
  have := walk_step (!noalign) w hw
  cases noalign <;> simpa using this

def byteN (b : Bytes) (i : Nat) : Nat := (b.getD i 0).toNat

def getwN (b : Bytes) (off : Nat) : Nat := byteN b off * 256 + byteN b (off + 1)

theorem getwN_lt (b : Bytes) (off : Nat) : getwN b off < 65536 := by
  unfold getwN byteN
  have := (b.getD off 0).toNat_lt
  have := (b.getD (off + 1) 0).toNat_lt
  omega

theorem getwN_ofNat (b : Bytes) (off : Nat) : (UInt16.ofNat (getwN b off)).toNat = getwN b off :=
  UInt16.toNat_ofNat_of_lt' (getwN_lt b off)

theorem getwN_congr {b b' : Bytes} {off : Nat} (h0 : b'.getD off 0 = b.getD off 0)
    (h1 : b'.getD (off + 1) 0 = b.getD (off + 1) 0) : getwN b' off = getwN b off := by
  simp only [getwN, byteN, h0, h1]

theorem getw_eq {b : Bytes} {off : Nat} (h : off + 1 < b.size) :
    getw b off = .ok (UInt16.ofNat (getwN b off)) := by
  have : stun_getw (ptrAt b off) = UInt16.ofNat (getwN b off) := by
    apply UInt16.toNat_inj.mp
    rw [stun_getw_toNat, getwN_ofNat]; simp [ptrAt, getwN, byteN]
  simp [getw, h, this]

theorem getw_inv {b : Bytes} {off : Nat} {w : UInt16} (h : getw b off = .ok w) :
    off + 1 < b.size ∧ w.toNat = getwN b off := by
  by_cases hb : off + 1 < b.size
  · rw [getw_eq hb] at h; cases h; exact ⟨hb, getwN_ofNat b off⟩
  · simp [getw, hb] at h

theorem rd_eq {b : Bytes} {i : Nat} (h : i < b.size) : rd b i = .ok (b.getD i 0) := by
  simp [rd, h, Array.getD]

theorem rd_err {b : Bytes} {i : Nat} (h : ¬ i < b.size) : rd b i = .error .oob := by
  simp [rd, h]

theorem rdBytes_eq {b : Bytes} {off n : Nat} (h : off + n ≤ b.size) :
    rdBytes b off n = .ok (b.extract off (off + n)) := by
  simp [rdBytes, h]

theorem rdBytes_inv {b d : Bytes} {off n : Nat} (h : rdBytes b off n = .ok d) :
    off + n ≤ b.size ∧ d = b.extract off (off + n) := by
  unfold rdBytes at h
  split at h
  · rename_i hle; injection h with h; exact ⟨hle, h.symm⟩
  · cases h

theorem getD_extract (b : Bytes) (off e i : Nat) (h : off + i < e) (he : e ≤ b.size) :
    (b.extract off e).getD i 0 = b.getD (off + i) 0 := by
  simp only [Array.getD_eq_getD_getElem?, Array.getElem?_extract]
  rw [if_pos (by omega)]

theorem getD_extract0 (b : Bytes) (L i : Nat) (hi : i < L) (hL : L ≤ b.size) :
    (b.extract 0 L).getD i 0 = b.getD i 0 := by
  simpa using getD_extract b 0 L i (by omega) hL

theorem rdBytes_sub {b d : Bytes} {off n k m : Nat} (h : rdBytes b off n = .ok d) (hk : k + m ≤ n) :
    rdBytes b (off + k) m = .ok (d.extract k (k + m)) := by
  obtain ⟨hle, hd⟩ := rdBytes_inv h
  rw [rdBytes_eq (by omega), hd, Array.extract_extract]
  have e1 : off + k + m = off + (k + m) := by omega
  have e2 : min (off + (k + m)) (off + n) = off + (k + m) := by omega
  rw [e1, e2]

theorem rd_of_rdBytes {b d : Bytes} {off n i : Nat} (h : rdBytes b off n = .ok d) (hi : i < n) :
    rd b (off + i) = .ok (d.getD i 0) := by
  obtain ⟨hle, hd⟩ := rdBytes_inv h
  rw [rd_eq (by omega), hd, getD_extract _ _ _ _ (by omega) (by omega)]

theorem rdBytes_congr {b1 b2 : Bytes} {off n : Nat} (h1 : off + n ≤ b1.size) (h2 : off + n ≤ b2.size)
    (h : ∀ j, off ≤ j → j < off + n → b1.getD j 0 = b2.getD j 0) : rdBytes b1 off n = rdBytes b2 off n := by
  rw [rdBytes_eq h1, rdBytes_eq h2]
  congr 1
  apply Array.ext
  · simp; omega
  · intro i hi1 hi2
    have hi : i < n := by simp at hi1; omega
    rw [Array.getElem_extract, Array.getElem_extract]
    have := h (off + i) (by omega) (by omega)
    simp only [Array.getD_eq_getD_getElem?] at this
    rw [Array.getElem?_eq_getElem (by omega), Array.getElem?_eq_getElem (by omega)] at this
    simpa using this

theorem rdBytes_prefix (b : Bytes) (L off n : Nat) (h : off + n ≤ L) (hL : L ≤ b.size) :
    rdBytes (b.extract 0 L) off n = rdBytes b off n :=
  rdBytes_congr (by simp; omega) (by omega) fun j _ hj => getD_extract0 b L j (by omega) hL

/-- the MAC text depends only on bytes 0-1 and 4 .. len-24 -/
theorem macInput_congr {b1 b2 : Bytes} {len : Nat} {ml : UInt16} {pad : Bool}
    (h1 : len - 24 ≤ b1.size) (h2 : len - 24 ≤ b2.size)
    (h : ∀ j, j < len - 24 → j ≠ 2 → j ≠ 3 → b1.getD j 0 = b2.getD j 0) :
    macInput b1 len ml pad = macInput b2 len ml pad := by
  unfold macInput
  split
  · rfl
  · rw [rdBytes_congr (b1 := b1) (b2 := b2) (off := 0) (n := 2) (by omega) (by omega)
        (fun j _ hj => h j (by omega) (by omega) (by omega)),
      rdBytes_congr (b1 := b1) (b2 := b2) (off := 4) (n := len - 28) (by omega) (by omega)
        (fun j hj1 hj2 => h j (by omega) (by omega) (by omega))]

theorem messageLength_eq {b : Bytes} (h : 4 ≤ b.size) :
    messageLength b = .ok (UInt16.ofNat (getwN b 2) + 20) := by
  unfold messageLength
  rw [show STUN_MESSAGE_LENGTH_POS = 2 from rfl, getw_eq (by omega)]; rfl

theorem hdr_reads_ok (b : Bytes) (h : 20 ≤ b.size) :
    (∃ c, getClass b = .ok c) ∧ (∃ m, getMethod b = .ok m) ∧ (∃ d, messageId b = .ok d) ∧ (∃ c, hasCookie b = .ok c) := by
  have hid : messageId b = .ok (b.extract 4 (4 + 16)) :=
    rdBytes_eq (off := 4) (n := 16) (by omega)
  refine ⟨by unfold getClass; rw [if_pos (by omega)]; exact ⟨_, rfl⟩,
    by unfold getMethod; rw [if_pos (by omega)]; exact ⟨_, rfl⟩, ⟨_, hid⟩, ?_⟩
  unfold hasCookie; rw [hid]; exact ⟨_, rfl⟩

theorem xorAddress_ok (buf : Bytes) (addr : SockAddr) (alen : Nat) (ck : UInt32) (h : 20 ≤ buf.size) :
    ∃ r, xorAddress buf addr alen ck = .ok r := by
  unfold xorAddress
  split
  · split <;> exact ⟨_, rfl⟩
  · split
    · split
      · exact ⟨_, rfl⟩
      · rw [rdBytes_eq (by omega)]; exact ⟨_, rfl⟩
    · exact ⟨_, rfl⟩

theorem getD_set (b : Bytes) (i j : Nat) (v : UInt8) :
    (b.setIfInBounds i v).getD j 0 = if i = j ∧ j < b.size then v else b.getD j 0 := by
  simp only [Array.getD_eq_getD_getElem?, Array.getElem?_setIfInBounds]
  by_cases h : i = j
  · subst h
    by_cases hl : i < b.size
    · simp [hl]
    · simp [hl]
  · simp [h]

theorem getD_oob (b : Bytes) (j : Nat) (h : b.size ≤ j) : b.getD j 0 = 0 := by
  simp [Array.getD_eq_getD_getElem?, Array.getElem?_eq_none h]

theorem wr_eq {b : Bytes} {i : Nat} {v : UInt8} (h : i < b.size) : wr b i v = .ok (b.setIfInBounds i v) := by
  simp [wr, h]

/-- both bytes of `stun_setw`, as a pure update -/
def setwP (b : Bytes) (off : Nat) (v : UInt16) : Bytes :=
  (b.setIfInBounds off (v >>> 8).toUInt8).setIfInBounds (off + 1) (v &&& 0xff).toUInt8

theorem setw_eq {b : Bytes} {off : Nat} {v : UInt16} (h : off + 1 < b.size) :
    setw b off v = .ok (setwP b off v) := by
  unfold setw setwP
  rw [wr_eq (by omega)]
  simp only
  rw [wr_eq (by simp; omega)]

theorem setwP_size (b : Bytes) (off : Nat) (v : UInt16) : (setwP b off v).size = b.size := by
  simp [setwP]

theorem be16_split (v : UInt16) : be16 (v >>> 8).toUInt8 (v &&& 0xff).toUInt8 = v.toNat := by
  unfold be16
  rw [UInt16.toNat_toUInt8, UInt16.toNat_toUInt8, UInt16.toNat_shiftRight, UInt16.toNat_and]
  have := v.toNat_lt
  simp [Nat.shiftRight_eq_div_pow]
  have h1 : (255 : Nat) = 2^8 - 1 := by decide
  rw [h1, Nat.and_two_pow_sub_one_eq_mod]
  omega

theorem getD_setwP_ne {b : Bytes} {off j : Nat} {v : UInt16} (h0 : j ≠ off) (h1 : j ≠ off + 1) :
    (setwP b off v).getD j 0 = b.getD j 0 := by
  unfold setwP
  rw [getD_set, getD_set, if_neg (fun h => h1 h.1.symm), if_neg (fun h => h0 h.1.symm)]

theorem getwN_setwP_self {b : Bytes} {off : Nat} {v : UInt16} (h : off + 1 < b.size) :
    getwN (setwP b off v) off = v.toNat := by
  rw [← be16_split v]
  unfold setwP getwN byteN be16
  rw [getD_set, getD_set, getD_set, if_neg (by omega), if_pos ⟨rfl, by omega⟩, if_pos ⟨rfl, by simpa using h⟩]

theorem getwN_setwP_ne {b : Bytes} {off off' : Nat} {v : UInt16} (hd : off' + 1 < off ∨ off + 1 < off') :
    getwN (setwP b off v) off' = getwN b off' :=
  getwN_congr (getD_setwP_ne (by omega) (by omega)) (getD_setwP_ne (by omega) (by omega))

theorem blit_size (b : Bytes) (off : Nat) (src : Bytes) : (blit b off src).size = b.size := by
  simp [blit]

theorem blit_getD (b : Bytes) (off : Nat) (src : Bytes) (j : Nat) (h : off + src.size ≤ b.size) :
    (blit b off src).getD j 0 = if off ≤ j ∧ j < off + src.size then src.getD (j - off) 0 else b.getD j 0 := by
  unfold blit
  simp only [Array.getD_eq_getD_getElem?, Array.getElem?_ofFn]
  by_cases hj : j < b.size
  · simp only [hj, dite_true]
    by_cases hc : off ≤ j ∧ j < off + src.size
    · simp [hc]
    · simp [hc, Array.getElem?_eq_getElem hj]
  · have : ¬ (off ≤ j ∧ j < off + src.size) := by omega
    simp [hj, this]

theorem getD_blit_out {b src : Bytes} {off j : Nat} (h : j < off ∨ off + src.size ≤ j) :
    (blit b off src).getD j 0 = b.getD j 0 := by
  unfold blit
  simp only [Array.getD_eq_getD_getElem?, Array.getElem?_ofFn]
  split
  · rw [if_neg (by omega), Array.getElem?_eq_getElem ‹_›]; rfl
  · rw [Array.getElem?_eq_none (by omega)]

theorem getwN_blit_out {b src : Bytes} {off off' : Nat} (h : off' + 1 < off ∨ off + src.size ≤ off') :
    getwN (blit b off src) off' = getwN b off' :=
  getwN_congr (getD_blit_out (by omega)) (getD_blit_out (by omega))

theorem blit_of_size_zero {src : Bytes} (b : Bytes) (off : Nat) (h : src.size = 0) : blit b off src = b := by
  apply Array.ext
  · simp [blit_size]
  · intro i h1 h2
    simp only [blit, Array.getElem_ofFn]
    rw [if_neg (by omega)]
    rfl

theorem wrBytes_eq {b : Bytes} {off : Nat} {src : Bytes} (h : off + src.size ≤ b.size) :
    wrBytes b off src = .ok (blit b off src) := by
  simp [wrBytes, h]

theorem wrZeros_eq {b : Bytes} {off n : Nat} (h : off + n ≤ b.size) :
    wrZeros b off n = .ok (blit b off (Array.replicate n 0)) := by
  unfold wrZeros; exact wrBytes_eq (by simpa using h)

theorem rdBytes_blit {b d : Bytes} {off : Nat} (h : off + d.size ≤ b.size) :
    rdBytes (blit b off d) off d.size = .ok d := by
  rw [rdBytes_eq (by rw [blit_size]; exact h)]
  congr 1
  apply Array.ext
  · simp [blit_size]; omega
  · intro i h1 h2
    have := blit_getD b off d (off + i) h
    rw [if_pos (by omega), Nat.add_sub_cancel_left] at this
    simpa [Array.getD_eq_getD_getElem?, Array.getElem?_eq_getElem, h2, blit_size,
      show off + i < b.size by omega] using this

def seg (b : Bytes) (off len : Nat) : List UInt8 := (b.toList.drop off).take len

theorem seg_zero (b : Bytes) (off : Nat) : seg b off 0 = [] := by simp [seg]

theorem seg_length {b : Bytes} {off len : Nat} (h : off + len ≤ b.size) : (seg b off len).length = len := by
  simp [seg, List.length_take, List.length_drop]; omega

theorem seg_drop (b : Bytes) (off len k : Nat) : (seg b off len).drop k = seg b (off + k) (len - k) := by
  unfold seg
  rw [List.drop_take, List.drop_drop]

theorem seg_cons {b : Bytes} {off len : Nat} (h : off < b.size) (hl : 0 < len) :
    seg b off len = b.getD off 0 :: seg b (off + 1) (len - 1) := by
  unfold seg
  have hl' : off < b.toList.length := by simpa using h
  rw [List.drop_eq_getElem_cons hl']
  obtain ⟨k, rfl⟩ : ∃ k, len = k + 1 := ⟨len - 1, by omega⟩
  simp [List.take_succ_cons, Array.getD, h]

theorem seg4 {b : Bytes} {off len : Nat} (h : off + 4 ≤ b.size) (hl : 4 ≤ len) :
    seg b off len = b.getD off 0 :: b.getD (off + 1) 0 :: b.getD (off + 2) 0 :: b.getD (off + 3) 0 ::
      seg b (off + 4) (len - 4) := by
  rw [seg_cons (by omega) (by omega), seg_cons (by omega) (by omega), seg_cons (by omega) (by omega),
      seg_cons (by omega) (by omega)]
  have : len - 1 - 1 - 1 - 1 = len - 4 := by omega
  simp [this, Nat.add_assoc]

theorem seg_all (b : Bytes) : seg b 0 b.size = b.toList := by
  unfold seg; rw [List.drop_zero]; exact List.take_of_length_le (by simp)

theorem drop_take_toList (b : Bytes) (k L : Nat) : (b.toList.take L).drop k = seg b k (L - k) := by
  unfold seg; rw [List.drop_take]

theorem toList_eq4 {b : Bytes} (h : 4 ≤ b.size) :
    b.toList = b.getD 0 0 :: b.getD 1 0 :: b.getD 2 0 :: b.getD 3 0 :: seg b 4 (b.size - 4) := by
  rw [← seg_all, seg4 (by omega) h]

theorem seg_getElem? (b : Bytes) (off len k : Nat) :
    (seg b off len)[k]? = if k < len then b.toList[off + k]? else none := by
  unfold seg
  rw [List.getElem?_take]
  split
  · rw [List.getElem?_drop]
  · rfl

theorem seg_ext {b1 b2 : Bytes} {off len : Nat} (h1 : off + len ≤ b1.size) (h2 : off + len ≤ b2.size)
    (h : ∀ j, off ≤ j → j < off + len → b1.getD j 0 = b2.getD j 0) : seg b1 off len = seg b2 off len := by
  have hg : ∀ {b : Bytes} {j : Nat}, j < b.size → b.toList[j]? = some (b.getD j 0) := fun hj => by
    simp [Array.getD_eq_getD_getElem?, hj]
  apply List.ext_getElem?
  intro k
  rw [seg_getElem?, seg_getElem?]
  split
  · rw [hg (by omega), hg (by omega), h _ (by omega) (by omega)]
  · rfl

end Nice.Stun
