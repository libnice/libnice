/-
  stun_agent_finish_message, stun_agent_init_request / _indication and the usage-level builders: one
  total specification per stage, from which the no-fault theorems (C05) and the result theorems (C07)
  are both read off.
-/
import Nice.Proofs.StunAppend
import Nice.Proofs.StunSafe
namespace Nice.Stun
open Nice.Gen Nice.Spec.Stun

/-- what a builder hands back: 0, or the length (≤ capacity) of a well-formed finished message -/
def BuilderResult (ag : Agent) (cap : Nat) (r : Nat) (m : Msg) : Prop :=
  m.buf.size = cap ∧ (r = 0 ∨ (r ≤ cap ∧ ∃ w', Built (some ag.cfg) m.buf w' ∧ w'.toNat = r))

theorem finishPrep_spec (H : Hashes) (c : Cfg) (msg : Msg) (k : Bytes) {w : UInt16} (hB : Built (some c) msg.buf w) :
    ∃ skip m md5, finishPrep H c msg k = .ok (skip, m, md5) ∧ m.buf = msg.buf := by
  unfold finishPrep
  simp only
  split
  · exact ⟨_, _, _, rfl, rfl⟩
  · split
    · obtain ⟨r1, h1, hrd1⟩ := find_built_read hB tREALM
      obtain ⟨r2, h2, hrd2⟩ := find_built_read hB tUSERNAME
      rw [h1, h2]
      rcases r1 with _ | ⟨ro, rl⟩ <;> rcases r2 with _ | ⟨uo, ul⟩ <;> try exact ⟨_, _, _, rfl, rfl⟩
      simp only
      rw [hrd1 ro rl rfl, hrd2 uo ul rfl]
      exact ⟨_, _, _, rfl, rfl⟩
    · exact ⟨_, _, _, rfl, rfl⟩

/-- NULL from the append, or M-I appended and holding the HMAC of the MAC text of the buffer as it then is.
    `hH`, here and below: the HMAC returns 20 bytes -/
theorem finishAppendMI_stored (H : Hashes) (hH : ∀ k t, (H.hmac k t).size = 20) (c : Cfg) (m : Msg) (k md5 : Bytes)
    {w : UInt16} (hB : Built (some c) m.buf w) (hcap : m.buf.size ≤ 65535) :
    finishAppendMI H c m k md5 = .ok none ∨
    ∃ b w' lf text, finishAppendMI H c m k md5 = .ok (some { m with buf := b }) ∧
      Appended (some c) m.buf w tMI 20 b w' lf ∧
      macInput b w'.toNat (w' - finishMinus c) (macPadOf c) = .ok text ∧
      rdBytes b (w.toNat + 4) 20 = .ok (H.hmac (finishMacKey c k md5) text) := by
  have := hB.ge20
  have := padOf_20 (some c)
  unfold finishAppendMI
  rcases append_spec (some c) m.buf w tMI 20 hB hcap (by decide) with ⟨_, e⟩ | ⟨b, w', lf, e, hA⟩
  · left; rw [e]
  · right
    have hB' := hA.built hB (by decide)
    have := hA.len; have := hA.fits; have := hA.size
    rw [e]; simp only
    rw [hB'.len_ok]; simp only
    -- now at least 44 bytes: `assert (len >= 44)` in stun_sha1 holds
    obtain ⟨text, htext, hsha⟩ := stunSha1_spec H (b := b) (w' - finishMinus c) (finishMacKey c k md5) (macPadOf c)
      (show 44 ≤ w'.toNat by omega) (by omega)
    have hss := hH (finishMacKey c k md5) text
    obtain ⟨ew, hA'⟩ := hA.write (d := H.hmac (finishMacKey c k md5) text) (Nat.le_of_eq hss)
    rw [hsha]; simp only
    rw [ew]
    refine ⟨_, w', lf, text, rfl, hA', ?_, by rw [← hss]; exact rdBytes_blit (by omega)⟩
    rw [← htext]
    exact macInput_congr (by rw [blit_size]; omega) (by omega) fun j hj _ _ => getD_blit_out (Or.inl (by omega))

theorem finishMI_spec (H : Hashes) (hH : ∀ k t, (H.hmac k t).size = 20) (c : Cfg) (msg : Msg) (key : Option Bytes)
    {cap : Nat} (hcap : cap ≤ 65535) (hm : Good (some c) cap msg.buf) :
    ∃ ok m, finishMI H c msg key = .ok (ok, m) ∧ Good (some c) cap m.buf := by
  unfold finishMI
  cases key with
  | none => exact ⟨_, _, rfl, hm⟩
  | some k =>
    simp only
    obtain ⟨hs, w, hB⟩ := hm
    obtain ⟨skip, m, md5, hp, hb⟩ := finishPrep_spec H c msg k hB
    rw [← hb] at hs hB
    rw [hp]
    cases skip
    · simp only
      rcases finishAppendMI_stored H hH c m k md5 hB (by omega) with e | ⟨b, w', lf, _, e, hA, _⟩
      · rw [e]; exact ⟨_, _, rfl, hs, w, hB⟩
      · rw [e]; exact ⟨_, _, rfl, by rw [← hs]; exact hA.size, w', hA.built hB (by decide)⟩
    · exact ⟨_, _, rfl, hs, w, hB⟩

theorem finishFPR_spec (c : Cfg) (m : Msg) {cap : Nat} (hcap : cap ≤ 65535) (hm : Good (some c) cap m.buf) :
    ∃ r, finishFPR c m = .ok r ∧ ∀ m', r = some m' → Good (some c) cap m'.buf := by
  obtain ⟨hs, w, hB⟩ := hm
  have := hB.ge20
  unfold finishFPR
  split
  · rcases append_spec (some c) m.buf w tFPR 4 hB (by omega) (by decide) with ⟨_, e⟩ | ⟨b, w', lf, e, hA⟩
    · rw [e]; exact ⟨_, rfl, fun _ h => by cases h⟩
    · have hB' := hA.built hB (by decide)
      have := hA.len; have := hA.fits; have := hA.size
      rw [e]; simp only
      rw [hB'.len_ok]; simp only
      obtain ⟨v, hv⟩ := fingerprint_ok (b := b) false (show 12 ≤ w'.toNat by omega) (by omega)
      rw [hv]; simp only
      obtain ⟨ew, hA'⟩ := hA.write (d := be32Bytes v) (Nat.le_refl 4)
      rw [ew]
      exact ⟨_, rfl, fun _ h => by cases h; exact ⟨by rw [← hs]; exact hA'.size, w', hA'.built hB (by decide)⟩⟩
  · exact ⟨_, rfl, fun _ h => by cases h; exact ⟨hs, w, hB⟩⟩

/-- a non-zero result is the length of what the M-I and then the FINGERPRINT stage left -/
theorem finishMessage_spec (H : Hashes) (hH : ∀ k t, (H.hmac k t).size = 20) (ag : Agent) (msg : Msg)
    (key : Option Bytes) {cap : Nat} (hcap : cap ≤ 65535) (hm : Good (some ag.cfg) cap msg.buf) :
    ∃ x, finishMessage H ag msg key = .ok x ∧ BuilderResult ag cap x.1 x.2.2 ∧
      (x.1 ≠ 0 → ∃ m1 m2 len, finishMI H ag.cfg msg (pickKey msg.key key) = .ok (true, m1) ∧
        finishFPR ag.cfg m1 = .ok (some m2) ∧ messageLength m2.buf = .ok len ∧ len.toNat = x.1 ∧ x.2.2.buf = m2.buf) := by
  have h20 : 20 ≤ msg.buf.size := by obtain ⟨_, w, hB⟩ := hm; have := hB.ge20; have := hB.le_size; omega
  unfold finishMessage getClass getMethod
  simp only [if_pos (show 1 < msg.buf.size by omega)]
  split
  · exact ⟨_, rfl, ⟨hm.1, Or.inl rfl⟩, fun h => absurd rfl h⟩
  · obtain ⟨ok1, m1, h1, hg1⟩ := finishMI_spec H hH ag.cfg msg (pickKey msg.key key) hcap hm
    rw [h1]
    cases ok1
    · exact ⟨_, rfl, ⟨hg1.1, Or.inl rfl⟩, fun h => absurd rfl h⟩
    · simp only
      obtain ⟨r2, h2, hg2⟩ := finishFPR_spec ag.cfg m1 hcap hg1
      rw [h2]
      cases r2 with
      | none => exact ⟨_, rfl, ⟨hg1.1, Or.inl rfl⟩, fun h => absurd rfl h⟩
      | some m2 =>
        obtain ⟨hs2, w2, hB2⟩ := hg2 m2 rfl
        have := hB2.ge20; have := hB2.le_size
        simp only
        unfold messageId
        rw [rdBytes_eq (by simp [STUN_MESSAGE_TRANS_ID_POS, STUN_MESSAGE_TRANS_ID_LEN]; omega), hB2.len_ok]
        exact ⟨_, rfl, ⟨hs2, Or.inr ⟨by omega, w2, hB2, rfl⟩⟩, fun _ => ⟨m1, m2, w2, rfl, h2, hB2.len_ok, rfl, rfl⟩⟩

theorem built20_blit (a : Option Cfg) (b src : Bytes) (hB : Built a b 20) : Built a (blit b 4 src) 20 :=
  have e20 : (20 : UInt16).toNat = 20 := rfl
  hB.congr (by rw [blit_size]; exact hB.le_size) fun j hj hr => getD_blit_out (by omega)

/-- the SOFTWARE attribute value of the agent can be measured (valid UTF-8, as the API requires) -/
def SoftwareOk (ag : Agent) : Prop :=
  ∃ n, softwareLen (ag.software.getD PACKAGE_STRING.toArray) 0 0 129 = .ok n ∧
    n ≤ (ag.software.getD PACKAGE_STRING.toArray).size ∧ (ag.software.getD PACKAGE_STRING.toArray).size < 2 ^ 63

theorem maybeSoftware_spec (ag : Agent) (hsw : SoftwareOk ag) {cap : Nat} {b : Bytes}
    (hg : Good (some ag.cfg) cap b) (hcap : cap ≤ 65535) :
    ∃ b', maybeSoftware ag b = .ok b' ∧ Good (some ag.cfg) cap b' := by
  unfold maybeSoftware
  split
  · obtain ⟨n, hn, hle, hlt⟩ := hsw
    rw [appendSoftware_eq, hn]
    simp only
    rw [if_neg (by omega)]
    obtain ⟨⟨ret, b'⟩, hr, hg'⟩ := appendBytes_step (some ag.cfg) (UInt16.ofNat STUN_ATTRIBUTE_SOFTWARE)
      ((ag.software.getD PACKAGE_STRING.toArray).extract 0 n) hg hcap (by simp; omega)
    rw [hr]
    exact ⟨b', rfl, hg'⟩
  · exact ⟨b, rfl, hg⟩

/-- both initialisers: `stun_message_init`, then (RFC 5389 style) the magic cookie over four id bytes -/
theorem initHeader_spec (ag : Agent) (buf : Bytes) (c m : Nat) (id : Bytes) (hc : c < 4) :
    ∃ r, messageInit buf c m id = .ok r ∧ ∀ b, r = some b →
      ∃ b1, (if isRfc5389ish ag.cfg = true then wrBytes b STUN_MESSAGE_TRANS_ID_POS cookieBytes else .ok b) = .ok b1 ∧
        Good (some ag.cfg) buf.size b1 := by
  obtain ⟨r, hr, hbuilt⟩ := messageInit_spec (some ag.cfg) buf c m id
  refine ⟨r, hr, fun b hb => ?_⟩
  obtain ⟨hB, hs⟩ := hbuilt hc b hb
  have hck : cookieBytes.size = 4 := rfl
  have h20 := hB.le_size
  have e20 : (20 : UInt16).toNat = 20 := rfl
  rw [e20] at h20
  split
  · rw [show STUN_MESSAGE_TRANS_ID_POS = 4 from rfl, wrBytes_eq (by rw [hck]; omega)]
    exact ⟨_, rfl, by rw [blit_size, hs], 20, built20_blit _ _ _ hB⟩
  · exact ⟨b, rfl, hs, 20, hB⟩

theorem initRequest_spec (ag : Agent) (buf : Bytes) (m : Nat) (id : Bytes) (hsw : SoftwareOk ag)
    (hcap : buf.size ≤ 65535) :
    ∃ ok msg, initRequest ag buf m id = .ok (ok, msg) ∧ msg.buf.size = buf.size ∧
      (ok = true → Good (some ag.cfg) buf.size msg.buf) := by
  unfold initRequest
  obtain ⟨r, hr, hstep⟩ := initHeader_spec ag buf STUN_REQUEST m id (by decide)
  rw [hr]
  cases r with
  | none => exact ⟨false, _, rfl, rfl, fun h => (by cases h)⟩
  | some b =>
    obtain ⟨b1, hb1, hg1⟩ := hstep b rfl
    simp only
    rw [hb1]
    simp only
    obtain ⟨b2, hb2, hg2⟩ := maybeSoftware_spec ag hsw hg1 hcap
    rw [hb2]
    exact ⟨true, _, rfl, hg2.1, fun _ => hg2⟩

theorem initIndication_spec (ag : Agent) (buf : Bytes) (m : Nat) (id : Bytes) :
    ∃ ok msg, initIndication ag buf m id = .ok (ok, msg) ∧ msg.buf.size = buf.size ∧
      (ok = true → Good (some ag.cfg) buf.size msg.buf) := by
  unfold initIndication
  obtain ⟨r, hr, hstep⟩ := initHeader_spec ag buf STUN_INDICATION m id (by decide)
  rw [hr]
  cases r with
  | none => exact ⟨false, _, rfl, rfl, fun h => (by cases h)⟩
  | some b =>
    obtain ⟨b1, hb1, hg1⟩ := hstep b rfl
    simp only
    rw [hb1]
    exact ⟨true, _, rfl, hg1.1, fun _ => hg1⟩

/-- a continuation that from any good message returns 0 or a finished well-formed message -/
def GoodK (ag : Agent) (cap : Nat) (k : Msg → BuildR) : Prop :=
  ∀ m, Good (some ag.cfg) cap m.buf → ∃ x, k m = .ok x ∧ BuilderResult ag cap x.1 x.2.2

theorem finish_good (H : Hashes) (hH : ∀ k t, (H.hmac k t).size = 20) (ag : Agent) (cap : Nat) (key : Option Bytes)
    (hcap : cap ≤ 65535) : GoodK ag cap (fun m => finishMessage H ag m key) :=
  fun m hm => let ⟨x, e, hr, _⟩ := finishMessage_spec H hH ag m key hcap hm; ⟨x, e, hr⟩

/-- one `append…; if (!= SUCCESS) return 0;` in front of a good continuation is good
    (`append32`, `append64`, `appendFlag` are `appendBytes` by definition: their steps are instances) -/
theorem tryApp_good (ag : Agent) (cap : Nat) (t : UInt16) (d : Bytes) (k : Msg → BuildR) (hk : GoodK ag cap k)
    (hcap : cap ≤ 65535) (hd : d.size < 2 ^ 63) :
    GoodK ag cap (fun m => tryApp ag m (appendBytes (some ag.cfg) m.buf t d) k) := by
  intro m hm
  obtain ⟨⟨ret, b⟩, hx, hg⟩ := appendBytes_step (some ag.cfg) t d hm hcap hd
  simp only [tryApp, hx]
  cases ret with
  | success => exact hk { m with buf := b } hg
  | notFound | invalid | noSpace | unsupported => exact ⟨_, rfl, hg.1, Or.inl rfl⟩

theorem goodK_ite (ag : Agent) (cap : Nat) (c : Prop) [Decidable c] (k1 k2 : Msg → BuildR)
    (h1 : GoodK ag cap k1) (h2 : GoodK ag cap k2) : GoodK ag cap (fun m => if c then k1 m else k2 m) := by
  intro m hm
  by_cases hc : c
  · simp only [if_pos hc]; exact h1 m hm
  · simp only [if_neg hc]; exact h2 m hm

/-- the frame of the usage builders: the initialiser, 0 if that fails, else `k` -/
theorem init_then_good (ag : Agent) (buf : Bytes) (k : Msg → BuildR) (hk : GoodK ag buf.size k)
    {i : M (Bool × Msg)} (hi : ∃ ok msg, i = .ok (ok, msg) ∧ msg.buf.size = buf.size ∧
      (ok = true → Good (some ag.cfg) buf.size msg.buf)) :
    ∃ x, (match i with
      | .error e => (.error e : BuildR)
      | .ok (false, msg) => .ok (0, ag, msg)
      | .ok (true, msg) => k msg) = .ok x ∧ BuilderResult ag buf.size x.1 x.2.2 := by
  obtain ⟨ok, msg, hi, hs, ht⟩ := hi
  rw [hi]
  cases ok
  · exact ⟨_, rfl, hs, Or.inl rfl⟩
  · exact hk msg (ht rfl)

theorem bindCreate_good (H : Hashes) (hH : ∀ k t, (H.hmac k t).size = 20) (ag : Agent) (buf id : Bytes)
    (hsw : SoftwareOk ag) (hcap : buf.size ≤ 65535) :
    ∃ x, bindCreate H ag buf id = .ok x ∧ BuilderResult ag buf.size x.1 x.2.2 :=
  init_then_good ag buf _ (finish_good H hH ag buf.size none hcap) (initRequest_spec ag buf STUN_BINDING id hsw hcap)

theorem bindKeepalive_good (H : Hashes) (hH : ∀ k t, (H.hmac k t).size = 20) (ag : Agent) (buf id : Bytes)
    (hcap : buf.size ≤ 65535) :
    ∃ x, bindKeepalive H ag buf id = .ok x ∧ BuilderResult ag buf.size x.1 x.2.2 :=
  init_then_good ag buf _ (finish_good H hH ag buf.size none hcap) (initIndication_spec ag buf STUN_BINDING id)

theorem cstr_size' (s : Bytes) : (cstr s).size ≤ s.size := cstr_size s

/-- from the end: `k3`, `k2`, `kp`, `k1` are `ccStep3`, `ccStep2`, `ccPrio`, `ccStep1`, each good because the next is.
    `hc` asks 2^62: the candidate id is stored rounded up to a multiple of 4, which must stay below 2^63 -/
theorem iceConncheckCreate_good (H : Hashes) (hH : ∀ k t, (H.hmac k t).size = 20) (ag : Agent) (buf id : Bytes)
    (username password : Option Bytes) (candUse controlling : Bool) (priority : UInt32) (tie : UInt64)
    (candidateId : Option Bytes) (compat : Nat) (hsw : SoftwareOk ag) (hcap : buf.size ≤ 65535)
    (hu : ∀ u, username = some u → u.size < 2 ^ 63) (hc : ∀ c, candidateId = some c → c.size < 2 ^ 62) :
    ∃ x, iceConncheckCreate H ag buf id username password candUse controlling priority tie candidateId compat = .ok x ∧
      BuilderResult ag buf.size x.1 x.2.2 := by
  have kfin := finish_good H hH ag buf.size password hcap
  have h32 : ∀ v : UInt32, (be32Bytes v).size < 2 ^ 63 := fun v => by
    have : (be32Bytes v).size = 4 := rfl
    rw [this]; decide
  have k3 : GoodK ag buf.size (ccStep3 H ag password candidateId compat) := by
    unfold ccStep3
    cases candidateId with
    | none => exact kfin
    | some cid =>
      simp only
      apply goodK_ite
      · have hsz := hc cid rfl
        have hcs := cstr_size cid
        refine tryApp_good ag buf.size _ _ _ ?_ hcap ?_
        · exact tryApp_good ag buf.size _ (be32Bytes 2) _ kfin hcap (h32 2)
        · simp only [takeZ, Array.size_ofFn]
          split <;> omega
      · exact kfin
  have k2 : GoodK ag buf.size (ccStep2 H ag username password candidateId compat) := by
    unfold ccStep2
    cases username with
    | none => exact k3
    | some u =>
      simp only
      exact goodK_ite ag buf.size _ _ _ (tryApp_good ag buf.size _ u _ k3 hcap (hu u rfl)) k3
  have kp : GoodK ag buf.size (ccPrio H ag username password candidateId controlling priority tie compat) := by
    unfold ccPrio
    refine tryApp_good ag buf.size _ (be32Bytes priority) _ ?_ hcap (h32 _)
    have h64 : (be32Bytes (UInt32.ofNat (tie.toNat / 4294967296)) ++ be32Bytes (UInt32.ofNat tie.toNat)).size < 2 ^ 63 := by
      have : (be32Bytes (UInt32.ofNat (tie.toNat / 4294967296)) ++ be32Bytes (UInt32.ofNat tie.toNat)).size = 8 := rfl
      rw [this]; decide
    exact tryApp_good ag buf.size _ _ _ k2 hcap h64
  have k1 : GoodK ag buf.size (ccStep1 H ag username password candidateId candUse controlling priority tie compat) := by
    unfold ccStep1
    apply goodK_ite
    · apply goodK_ite
      · exact tryApp_good ag buf.size _ #[] _ kp hcap (by decide)
      · exact kp
    · exact k2
  exact init_then_good ag buf _ k1 (initRequest_spec ag buf STUN_BINDING id hsw hcap)

end Nice.Stun
