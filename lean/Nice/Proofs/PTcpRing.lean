/-
  For C08: the PseudoTcpFifo ring refines a byte queue (`byteAt b i`: the i-th logical byte).  Writes and reads go around the
  end of the buffer in two pieces; `ring_blit` and `ring_extract` say what the two pieces amount to, about plain arrays and
  in terms of the offset `j` from the physical start position.
-/
import Nice.Proofs.PTcpFifo
namespace Nice.Proofs.PTcp
open Nice.PTcp Nice.Gen

theorem mod_two {x c : Nat} (h : x < 2 * c) : x % c = if x < c then x else x - c := by
  split
  · exact Nat.mod_eq_of_lt ‹_›
  · rw [Nat.mod_eq_sub_mod (by omega)]; exact Nat.mod_eq_of_lt (by omega)

/-- logical byte `i` of the ring (0 = oldest unread byte) -/
def byteAt (b : Fifo) (i : Nat) : UInt8 := b.buf[(b.rpos + i) % b.buf.size]?.getD 0

theorem blit_get (src : Array UInt8) (so : Nat) (dst : Array UInt8) (d0 n i : Nat) (hd : d0 + n ≤ dst.size) :
    (Fifo.blit src so dst d0 n)[i]?.getD 0 =
      if d0 ≤ i ∧ i < d0 + n then src.getD (so + (i - d0)) 0 else dst[i]?.getD 0 := by
  induction n generalizing so dst d0 with
  | zero => simp [Fifo.blit]; omega
  | succ k ih =>
    simp only [Fifo.blit]
    rw [ih (so + 1) (dst.setIfInBounds d0 (src.getD so 0)) (d0 + 1) (by simp; omega)]
    by_cases h1 : d0 + 1 ≤ i ∧ i < d0 + 1 + k
    · have h2 : d0 ≤ i ∧ i < d0 + (k + 1) := by omega
      simp only [h1, h2, and_self, if_true]
      congr 1; omega
    · simp only [h1, if_false]
      by_cases h3 : i = d0
      · subst h3
        have h2 : i ≤ i ∧ i < i + (k + 1) := by omega
        simp only [h2, and_self, if_true, Nat.sub_self, Nat.add_zero]
        rw [Array.getElem?_setIfInBounds_self_of_lt (by omega)]
        rfl
      · have h2 : ¬ (d0 ≤ i ∧ i < d0 + (k + 1)) := by omega
        simp only [h2, if_false]
        rw [Array.getElem?_setIfInBounds_ne (by omega)]

theorem memcpy_get {site dst d0 src s0 n r} (h : Fifo.memcpy site dst d0 src s0 n = .ok r) (i : Nat) :
    r[i]?.getD 0 = if d0 ≤ i ∧ i < d0 + n then src.getD (s0 + (i - d0)) 0 else dst[i]?.getD 0 := by
  unfold Fifo.memcpy at h
  rcases ite_ok h with ⟨h0, h⟩ | ⟨_, h⟩
  · cases h; subst h0
    rw [if_neg (by omega)]
  · rcases ite_ok h with ⟨hb, h⟩ | ⟨_, h⟩
    · cases h; exact blit_get _ _ _ _ _ _ hb.2
    · cases h

/-- the two `memcpy`s of a ring write: the tail piece, then the wrapped head piece -/
theorem ring_blit {site : String} {buf buf1 buf2 src : Array UInt8} {wp so copy : Nat} (hwp : wp < buf.size)
    (hc : copy ≤ buf.size)
    (h1 : Fifo.memcpy site buf wp src so (min copy (buf.size - wp)) = .ok buf1)
    (h2 : Fifo.memcpy site buf1 0 src (so + min copy (buf.size - wp)) (copy - min copy (buf.size - wp)) = .ok buf2)
    (j : Nat) (hj : j < buf.size) :
    buf2[(wp + j) % buf.size]?.getD 0 = if j < copy then src.getD (so + j) 0 else buf[(wp + j) % buf.size]?.getD 0 := by
  rw [memcpy_get h2, memcpy_get h1, mod_two (by omega : wp + j < 2 * buf.size)]
  by_cases hw : wp + j < buf.size
  · rw [if_pos hw, if_neg (by omega : ¬ (0 ≤ wp + j ∧ wp + j < 0 + (copy - min copy (buf.size - wp))))]
    by_cases hjc : j < copy
    · rw [if_pos (by omega : wp ≤ wp + j ∧ wp + j < wp + min copy (buf.size - wp)), if_pos hjc]
      congr 1; omega
    · rw [if_neg (by omega : ¬ (wp ≤ wp + j ∧ wp + j < wp + min copy (buf.size - wp))), if_neg hjc]
  · rw [if_neg hw]
    by_cases hjc : j < copy
    · rw [if_pos (by omega : 0 ≤ wp + j - buf.size ∧ wp + j - buf.size < 0 + (copy - min copy (buf.size - wp))), if_pos hjc]
      congr 1; omega
    · rw [if_neg (by omega : ¬ (0 ≤ wp + j - buf.size ∧ wp + j - buf.size < 0 + (copy - min copy (buf.size - wp)))),
        if_neg (by omega : ¬ (wp ≤ wp + j - buf.size ∧ wp + j - buf.size < wp + min copy (buf.size - wp))), if_neg hjc]

theorem ring_extract {buf : Array UInt8} {rp copy : Nat} (hrp : rp < buf.size) (hc : copy ≤ buf.size) (j : Nat)
    (hj : j < copy) :
    (buf.extract rp (rp + min copy (buf.size - rp)) ++ buf.extract 0 (copy - min copy (buf.size - rp)))[j]?.getD 0 =
      buf[(rp + j) % buf.size]?.getD 0 := by
  rw [Array.getElem?_append, Array.size_extract, mod_two (by omega : rp + j < 2 * buf.size)]
  by_cases hw : rp + j < buf.size
  · rw [if_pos (by omega), Array.getElem?_extract, if_pos (by omega), if_pos hw]
  · rw [if_neg (by omega), Array.getElem?_extract, if_pos (by omega), if_neg hw]
    congr 2; omega

/-- no room hypothesis: a full ring accepts nothing -/
theorem writeOffset_content {b b' : Fifo} {src so n off c} (hb : FOk b)
    (h : b.writeOffset src so n off = .ok (c, b')) :
    c = min n (b.buf.size - b.data - off) ∧
    ∀ i, i < b.buf.size → byteAt b' i =
      if b.data + off ≤ i ∧ i < b.data + off + c then src.getD (so + (i - (b.data + off))) 0 else byteAt b i := by
  have hd := hb.1.1
  have hr := hb.1.2
  have hc := hb.2
  have hcnt := writeOffset_count hb h
  refine ⟨hcnt, fun i hi => ?_⟩
  rcases (writeOffset_eq h).2 with ⟨_, rfl, rfl⟩ | ⟨hroom, _, buf1, buf2, m1, m2, rfl⟩
  · rw [if_neg (by omega)]
  · simp only [Fifo.cap] at hroom m1 m2
    have hwp : (b.rpos + b.data + off) % b.buf.size < b.buf.size := Nat.mod_lt _ (by omega)
    rw [gsub_of_le (Nat.le_of_lt hwp) hc] at m1 m2
    have key := ring_blit hwp (by omega) m1 m2
    simp only [byteAt, memcpy_size m2, memcpy_size m1]
    by_cases hi' : b.data + off ≤ i
    · have e : (b.rpos + i) % b.buf.size = ((b.rpos + b.data + off) % b.buf.size + (i - (b.data + off))) % b.buf.size := by
        rw [Nat.mod_add_mod]; congr 1; omega
      rw [e, key _ (by omega)]
      by_cases hic : i < b.data + off + c
      · rw [if_pos (by omega), if_pos ⟨hi', hic⟩]
      · rw [if_neg (by omega), if_neg (fun h => hic h.2)]
    · -- a byte below the write position is reached from it by going once round the ring
      have e : (b.rpos + i) % b.buf.size =
          ((b.rpos + b.data + off) % b.buf.size + (i + b.buf.size - (b.data + off))) % b.buf.size := by
        rw [Nat.mod_add_mod, ← Nat.add_mod_right (b.rpos + i)]; congr 1; omega
      rw [e, key _ (by omega), if_neg (by omega), if_neg (fun h => hi' h.1)]

theorem readOffset_content {b : Fifo} {len off cap : Nat} {out : Array UInt8} (hb : FOk b)
    (h : b.readOffset len off cap = .ok out) :
    out.size = min len (b.data - off) ∧ ∀ j, j < out.size → out[j]?.getD 0 = byteAt b (off + j) := by
  have hd := hb.1.1
  have hrp : (b.rpos + off) % b.buf.size < b.buf.size := Nat.mod_lt _ (by have := hb.1.2; omega)
  have hsz := readOffset_size hb h
  refine ⟨hsz, fun j hj => ?_⟩
  rw [readOffset_eq hb h, ring_extract hrp (by omega) j (by omega), byteAt, Nat.mod_add_mod, Nat.add_assoc]

theorem byteAt_consumed (b : Fifo) (k d i : Nat) :
    byteAt { b with rpos := (b.rpos + k) % b.cap, data := d } i = byteAt b (k + i) := by
  simp only [byteAt, Fifo.cap]
  rw [Nat.mod_add_mod, Nat.add_assoc]

theorem writeOffset_appends {b b1 : Fifo} {src : Array UInt8} {so n c : Nat} (hb : FOk b)
    (hw : b.writeOffset src so n 0 = .ok (c, b1)) :
    c = min n (b.buf.size - b.data) ∧ b1.data = b.data ∧
    (∀ i, i < b.data → byteAt b1 i = byteAt b i) ∧ (∀ j, j < c → byteAt b1 (b.data + j) = src.getD (so + j) 0) := by
  have hd := hb.1.1
  have ⟨hc1, hbytes⟩ := writeOffset_content hb hw
  refine ⟨hc1, (writeOffset_ok hb hw).2.2.1, fun i hi => ?_, fun j hj => ?_⟩
  · exact (hbytes i (by omega)).trans (if_neg (by omega))
  · refine (hbytes (b.data + j) (by omega)).trans ((if_pos (by omega)).trans ?_)
    congr 1; omega

theorem fifo_write_appends {b b' : Fifo} {src : Array UInt8} {n c : Nat} (hb : FOk b) (h : b.write src n = .ok (c, b')) :
    c = min n (b.buf.size - b.data) ∧ b'.data = b.data + c ∧
    (∀ i, i < b.data → byteAt b' i = byteAt b i) ∧ (∀ j, j < c → byteAt b' (b.data + j) = src.getD j 0) := by
  obtain ⟨b1, hw, rfl⟩ := write_eq h
  have ⟨h1, h2, h3, h4⟩ := writeOffset_appends hb hw
  exact ⟨h1, congrArg (· + c) h2, h3, fun j hj => (h4 j hj).trans (by rw [Nat.zero_add])⟩

theorem fifo_read_takes {b b' : Fifo} {n : Nat} {out : Array UInt8} (hb : FOk b) (h : b.read n = .ok (out, b')) :
    out.size = min n b.data ∧ (∀ j, j < out.size → out[j]?.getD 0 = byteAt b j) ∧
    b'.data = b.data - out.size ∧ (∀ i, byteAt b' i = byteAt b (out.size + i)) := by
  have hd := hb.1.1
  have hc := hb.2
  obtain ⟨hro, rfl⟩ := read_eq h
  have ⟨hs, hg⟩ := readOffset_content hb hro
  simp only [Nat.sub_zero, Nat.zero_add] at hs hg
  exact ⟨hs, hg, gsub_of_le (by omega) (by omega), byteAt_consumed b _ _⟩

end Nice.Proofs.PTcp
