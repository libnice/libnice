/- what the scatter/gather loops of agent.c take from a list of buffers, for C02 and the send side of C17 -/
import Nice.Model.Copy
namespace Nice.Copy

/-- one round: `min (size - offset) n` bytes from the first buffer, the rest from the others -/
theorem take_drop_append {α} (b r : List α) (o n : Nat) (h : o ≤ b.length) :
    ((b ++ r).drop o).take n = (b.drop o).take (min (b.length - o) n) ++ r.take (n - min (b.length - o) n) := by
  have e : n - min (b.length - o) n = n - (b.length - o) := by omega
  rw [List.drop_append_of_le_length h, List.take_append, List.length_drop, e,
    List.take_eq_take_min (i := n), List.length_drop, Nat.min_comm]

theorem gather_take_drop (m : List Buf) : ∀ o n, gather m o n = (m.flatten.drop o).take n := by
  induction m with
  | nil => intro o n; simp [gather]
  | cons b bs ih =>
    intro o n
    unfold gather
    split
    · rename_i h; simp [ih, List.drop_append, List.drop_eq_nil_of_le h]
    · simp only [ih, List.flatten_cons, take_drop_append _ _ _ _ (by omega : o ≤ b.length), List.drop_zero]

end Nice.Copy
