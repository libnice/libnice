/- C17, tcp-bsd send queue: whatever the kernel accepts, wire ++ backlog are the messages the socket took -/
import Nice.Model.SendQueue
namespace Nice.Props.C17
open Nice.Sock Nice.SendQueue

/-- the bytes not yet on the wire -/
def backlog (s : St) : Bytes := s.queue.flatten

theorem queuedBlock_none (bufs : List Bytes) (n len : Nat) (h : n ≥ len) : queuedBlock bufs n len = none := by
  simp [queuedBlock, h]

/-- a session on one tcp-bsd socket: messages of any number of buffers, kernel acceptance scripts,
    writable events -/
inductive Op where
  | send (bufs : List Bytes)   -- socket_send_messages (unreliable)
  | sendr (bufs : List Bytes)  -- socket_send_messages_reliable
  | writable                   -- G_IO_OUT: socket_send_more
  | script (acc : List Nat)    -- what the kernel will accept on the next sendmsg calls

structure Run where
  st     : St := {}
  k      : Kernel := {}
  wire   : Bytes := []     -- everything the kernel accepted, in order
  frames : Bytes := []     -- concatenation of the messages the socket reported as sent (ret = 1)

def stepOp (r : Run) : Op → Run
  | .send bufs =>
    let (res, st, k) := SendQueue.send r.st r.k bufs
    { st := st, k := k, wire := r.wire ++ res.down.flatten, frames := if res.ret = 1 then r.frames ++ bufs.flatten else r.frames }
  | .sendr bufs =>
    let (res, st, k) := SendQueue.sendReliable r.st r.k bufs
    { st := st, k := k, wire := r.wire ++ res.down.flatten, frames := if res.ret = 1 then r.frames ++ bufs.flatten else r.frames }
  | .writable =>
    let (res, st, k) := SendQueue.writable r.st r.k
    { r with st := st, k := k, wire := r.wire ++ res.down.flatten }
  | .script acc => { r with k := { acc := acc } }

def runOps (r : Run) (ops : List Op) : Run := ops.foldl stepOp r

def Inv (r : Run) : Prop := r.wire ++ backlog r.st = r.frames

namespace SendQueue

/-- `nice_socket_queue_send_with_callback`'s copy loop, from `mo` bytes into the message -/
theorem copyLoop_flat : ∀ (bufs : List Bytes) (mo off : Nat) (tbs : Bytes), mo ≤ bufs.flatten.length →
    tbs.length = off + (bufs.flatten.length - mo) → copyLoop bufs mo off tbs = tbs.take off ++ bufs.flatten.drop mo := by
  intro bufs
  induction bufs with
  | nil =>
    intro mo off tbs _ hl
    simp only [List.flatten_nil, List.length_nil, Nat.zero_sub, Nat.add_zero] at hl
    simp [copyLoop, List.take_of_length_le, hl]
  | cons buf rest ih =>
    intro mo off tbs hmo hl
    simp only [List.flatten_cons, List.length_append] at hmo hl
    simp only [copyLoop, List.flatten_cons]
    by_cases hskip : buf.length ≤ mo
    · simp only [hskip, ↓reduceIte]
      rw [ih (mo - buf.length) off tbs (by omega) (by omega)]
      rw [List.drop_append, List.drop_eq_nil_of_le hskip, List.nil_append]
    · simp only [hskip, ↓reduceIte]
      have hoff : off ≤ tbs.length := by omega
      have hmin : min (tbs.length - off) (buf.length - mo) = buf.length - mo := by omega
      have hdl : ((buf.drop mo).take (buf.length - mo)) = buf.drop mo := List.take_of_length_le (by simp)
      rw [hmin, hdl]
      have htl : (tbs.take off).length = off := by simp only [List.length_take]; omega
      have hbl : (blit tbs off (buf.drop mo)).length = tbs.length := by
        simp only [blit, List.length_append, htl, List.length_drop]; omega
      rw [ih 0 (off + (buf.length - mo)) (blit tbs off (buf.drop mo)) (Nat.zero_le _) (by rw [hbl]; omega)]
      have htk : (blit tbs off (buf.drop mo)).take (off + (buf.length - mo)) = tbs.take off ++ buf.drop mo := by
        unfold blit
        exact List.take_left' (by simp only [List.length_append, htl, List.length_drop])
      rw [htk, List.drop_zero, List.append_assoc]
      congr 1
      rw [List.drop_append_of_le_length (by omega)]

/-- `d` keeps `simp` from expanding `bufs.flatten.length`; callers pass `_ rfl` (likewise below) -/
theorem queuedBlock_flat (bufs : List Bytes) (d : Bytes) (hd : bufs.flatten = d) (n : Nat) (h : n < d.length) :
    queuedBlock bufs n d.length = some (d.drop n) := by
  subst hd
  simp only [queuedBlock]
  have : ¬ n ≥ bufs.flatten.length := by omega
  simp only [this, ↓reduceIte]
  rw [copyLoop_flat bufs n 0 _ (by omega) (by rw [List.length_replicate]; omega)]
  rfl

/-- kernel contract: what is accepted is a prefix of what was offered -/
theorem kernel_send_spec (k : Kernel) (d : Bytes) :
    (∃ k', k.send d = (.eagain, [], k')) ∨ (∃ n k', n ≤ d.length ∧ k.send d = (.wrote n, d.take n, k')) := by
  unfold Kernel.send
  cases k.acc with
  | nil => right; exact ⟨d.length, k, Nat.le_refl _, by simp⟩
  | cons a rest =>
    simp only
    split
    · left; exact ⟨_, rfl⟩
    · right; exact ⟨min a d.length, _, Nat.min_le_right _ _, rfl⟩

theorem enqueue_flat (s : St) (bufs : List Bytes) (d : Bytes) (hd : bufs.flatten = d) (n : Nat) (head w : Bool) :
    backlog (enqueue s bufs n d.length head w) = if head then d.drop n ++ backlog s else backlog s ++ d.drop n := by
  by_cases h : n < d.length
  · cases head <;> simp [enqueue, queuedBlock_flat bufs d hd n h, backlog]
  · have : d.drop n = [] := List.drop_eq_nil_of_le (by omega)
    cases head <;> simp [enqueue, queuedBlock_none bufs n d.length (by omega), this]

/-- refused: `ret` -1, or 0 for an unreliable send behind a backlog -/
theorem sendMessage_spec (s : St) (k : Kernel) (bufs : List Bytes) (d : Bytes) (hd : bufs.flatten = d) (rel : Bool) :
    (sendMessage s k bufs rel).2.1.flatten ++ backlog (sendMessage s k bufs rel).2.2.1 =
      backlog s ++ (if (sendMessage s k bufs rel).1 < 0 ∨ ((sendMessage s k bufs rel).1 = 0 ∧ rel = false) then [] else d) := by
  have hn : ¬ ((d.length : Int) < 0) := by omega
  have hz : ((d.length : Int) = 0) ↔ d = [] := by simp
  simp only [sendMessage, hd]
  by_cases he : s.err = true
  · simp [he]
  · simp only [he, Bool.false_eq_true, ↓reduceIte]
    cases hq : s.queue with
    | nil =>
      have hb : backlog s = [] := by simp [backlog, hq]
      simp only [List.isEmpty_nil, ↓reduceIte]
      rcases kernel_send_spec k d with ⟨k', hk⟩ | ⟨n, k', hn', hk⟩
      · simp only [hk, enqueue_flat s bufs d hd, hn, hz, hb]
        cases rel <;> simp +contextual
      · simp only [hk]
        by_cases hlt : n < d.length
        · have : d ≠ [] := by intro h; simp [h] at hlt
          simp [hlt, enqueue_flat s bufs d hd, hn, hb, this]
        · have : n = d.length := by omega
          subst this
          cases rel <;> simp +contextual [hn, hb]
    | cons t q =>
      cases rel
      · simp
      · simp [enqueue_flat s bufs d hd 0 false true, hn]

end SendQueue

/-- `nice_socket_flush_send_queue_to_socket` moves bytes from the front of the backlog to the wire,
    nothing else, for every acceptance pattern of the kernel; when it reports the queue emptied it is. -/
theorem C17_flush_contiguous (fuel : Nat) (q : List Bytes) (k : Kernel) (w : List Bytes) :
    (flush fuel q k w).2.1.flatten ++ (flush fuel q k w).2.2.1.flatten = w.flatten ++ q.flatten ∧
    ((flush fuel q k w).1 = true → (flush fuel q k w).2.2.1 = []) := by
  induction fuel generalizing q k w with
  | zero => simp [flush]
  | succ fuel ih =>
    cases q with
    | nil => simp [flush]
    | cons tbs rest =>
      simp only [flush]
      rcases SendQueue.kernel_send_spec k tbs with ⟨k', hk⟩ | ⟨n, k', hn, hk⟩
      · simp [hk]
      · simp only [hk]
        by_cases hlt : n < tbs.length
        · simp only [hlt, ↓reduceIte, List.flatten_append, List.flatten_cons, List.flatten_nil, List.append_nil,
            List.append_assoc, Bool.false_eq_true, false_implies, and_true]
          rw [← List.append_assoc (List.take n tbs), List.take_append_drop]
        · have hn' : n = tbs.length := by omega
          subst hn'
          simp only [Nat.lt_irrefl, ↓reduceIte, List.take_length]
          have := ih rest k' (w ++ [tbs])
          simp only [List.flatten_append, List.flatten_cons, List.flatten_nil, List.append_nil, List.append_assoc] at this ⊢
          exact this

namespace SendQueue

theorem send_inv (s : St) (k : Kernel) (bufs : List Bytes) :
    (Nice.SendQueue.send s k bufs).1.down.flatten ++ backlog (Nice.SendQueue.send s k bufs).2.1 =
      backlog s ++ (if (Nice.SendQueue.send s k bufs).1.ret = 1 then bufs.flatten else []) := by
  have h1 := sendMessage_spec s k bufs _ rfl false
  simp only [Nice.SendQueue.send, h1]
  rcases Int.lt_trichotomy (sendMessage s k bufs false).1 0 with h | h | h
  · simp [h]
  · simp [h]
  · have : ¬ (sendMessage s k bufs false).1 < 0 ∧ ¬ (sendMessage s k bufs false).1 = 0 := by omega
    simp [this.1, this.2]

theorem sendReliable_inv (s : St) (k : Kernel) (bufs : List Bytes) :
    (Nice.SendQueue.sendReliable s k bufs).1.down.flatten ++ backlog (Nice.SendQueue.sendReliable s k bufs).2.1 =
      backlog s ++ (if (Nice.SendQueue.sendReliable s k bufs).1.ret = 1 then bufs.flatten else []) := by
  have h1 := sendMessage_spec s k bufs _ rfl true
  simp only [Nice.SendQueue.sendReliable, h1]
  by_cases h : (sendMessage s k bufs true).1 < 0 <;> simp [h]

theorem writable_inv (s : St) (k : Kernel) :
    (Nice.SendQueue.writable s k).1.down.flatten ++ backlog (Nice.SendQueue.writable s k).2.1 = backlog s := by
  simp only [Nice.SendQueue.writable]
  by_cases hs : s.src = true
  · simp only [hs, Bool.not_true, Bool.false_eq_true, ↓reduceIte]
    have hf := C17_flush_contiguous (s.queue.length + 1) s.queue k []
    simp only [List.flatten_nil, List.nil_append] at hf
    obtain ⟨hf1, _⟩ := hf
    split <;> (simp only [backlog]; exact hf1)
  · have hs : s.src = false := by simpa using hs
    simp [hs]

end SendQueue
end Nice.Props.C17
