/-
  The control flow of `Nice.PTcp`, cut into stages and inverted: what a successful call of `set_state_established`,
  `parse_options`, `process`, `notify_packet`, `recv` was made of.  Nothing here mentions an invariant; every invariant's
  proof starts from these statements instead of unfolding the model functions again.
-/
import Nice.Proofs.PTcpAck

/- in `Nice.Proofs.PTcpStream`: what `processData_eq` and the stream layer's `OpOk0`, `PktOk` are stated with -/
namespace Nice.Proofs.PTcpStream
open Nice.PTcp Nice.Gen

/-- the size `resize_receive_buffer` gives the ring for a requested size `v` -/
def rcvBufSize (v : UInt32) : Nat := ((scaleLoop 33 v 0).1 <<< (scaleLoop 33 v 0).2.toUInt32).toNat

/-- the header fields `parse` reads from a packet -/
def hdrOf (p : Array UInt8) : R Segment := do
  let conv ← rd32 p 0
  let seq ← rd32 p 4
  let ack ← rd32 p 8
  let flags ← rd p 13
  let wnd ← rd16 p 14
  let tsval ← rd32 p 16
  let tsecr ← rd32 p 20
  pure { conv := conv, seq := seq, ack := ack, flags := flags, wnd := wnd,
         dataOff := HEADER_SIZE, len := UInt32.ofNat (p.size - HEADER_SIZE),
         tsval := tsval, tsecr := tsecr }

/-- `processData`: "If we make room in the send queue" -/
def pdPrep (s : Sock) : Sock :=
  let kIdealRefillSize := (s.sbuf_len + s.rbuf_len) / 2
  let snd_buffered := s.sbuf.getBuffered
  let wr := s.bWriteEnable && snd_buffered < kIdealRefillSize.toNat
  emitIf wr { s with bWriteEnable := if wr then false else s.bWriteEnable } .writable

/-- `sflags`, from the segment before trimming -/
def pdFlags (s : Sock) (seg : Segment) (received_fin : Bool) : SendFlags :=
  if seg.seq != s.rcv_nxt then .sfDuplicateAck
  else if seg.len != 0 then (if s.ack_delay == 0 then .sfImmediateAck else .sfDelayedAck)
  else if received_fin then .sfImmediateAck
  else .sfNone

/-- "Adjust the incoming segment", first step: what lies before `rcv_nxt` -/
def trimLeft (nxt : UInt32) (seg : Segment) : Segment :=
  if lt? (ptcp_smaller seg.seq nxt) then
    let nAdjust := nxt - seg.seq
    if nAdjust < seg.len then
      { seg with seq := seg.seq + nAdjust, dataOff := seg.dataOff + nAdjust.toNat, len := seg.len - nAdjust }
    else { seg with len := 0 }
  else seg

/-- second step: what does not fit the free ring space -/
def trimRight (nxt : UInt32) (available_space : Nat) (seg : Segment) : Segment :=
  if (seg.seq + seg.len - nxt).toNat > available_space then
    let nAdjust := UInt32.ofNat (gsub (seg.seq + seg.len - nxt).toNat available_space)
    if nAdjust < seg.len then { seg with len := seg.len - nAdjust } else { seg with len := 0 }
  else seg

/-- the "drop overtaking data" line -/
def dropPre (s : Sock) (seg : Segment) : Segment :=
  if (seg.flags &&& cFLAG_CTL) == 0 && (s.state = .listen || s.state = .synSent) then { seg with len := 0 } else seg

/-- `bIgnoreData`: a control segment, or a shut-down socket without FIN-ACK support -/
def ignoreData (s : Sock) (seg : Segment) : Bool :=
  (seg.flags &&& cFLAG_CTL) != 0 || (!s.support_fin_ack && s.shutdown != .none)

/-- the `if seg.len > 0` block -/
def storeStage (s : Sock) (seg : Segment) (p : Array UInt8) (bIgnoreData : Bool) (sflags : SendFlags) :
    R (Sock × SendFlags × Bool) :=
  if seg.len > 0 then
    (if bIgnoreData then
       pure ({ s with rcv_nxt := if seg.seq == s.rcv_nxt then s.rcv_nxt + seg.len else s.rcv_nxt }, sflags, false)
     else do
       let nOffset := seg.seq - s.rcv_nxt
       let (res, rb) ← s.rbuf.writeOffset p seg.dataOff seg.len.toNat nOffset.toNat
       if res != seg.len.toNat then fault (Fault.assert "process: res == seg->len")
       let s := { s with rbuf := rb }
       if seg.seq == s.rcv_nxt then do
         let rb ← s.rbuf.consumeWriteBuffer seg.len.toNat
         let (rl, rb, rcv_nxt, rcv_wnd, sflags) ←
           rlistRecover s.rlist rb (s.rcv_nxt + seg.len) (s.rcv_wnd - seg.len) sflags
         pure ({ s with rbuf := rb, rcv_nxt := rcv_nxt, rcv_wnd := rcv_wnd, rlist := rl }, sflags, true)
       else
         pure ({ s with rlist := rlistInsert { seq := seg.seq, len := seg.len } s.rlist }, sflags, false))
  else pure (s, sflags, false)

theorem processData_eq (s : Sock) (seg : Segment) (p : Array UInt8) (rf : Bool) (clk : UInt32) :
    processData s seg p rf clk =
      (let s0 := pdPrep s
       let seg2 := trimRight s0.rcv_nxt s0.rbuf.getWriteRemaining (trimLeft s0.rcv_nxt seg)
       do
         let (s1, sflags, bNew) ← storeStage s0 (dropPre s0 seg2) p (ignoreData s0 seg2) (pdFlags s0 seg rf)
         let s2 := { s1 with rcv_nxt := if rf then s1.rcv_nxt + 1 else s1.rcv_nxt }
         let s3 ← attemptSend s2 sflags clk
         pure (true, emitIf (bNew && s3.bReadEnable) s3 .readable)) := by
  rfl -- as a term the same `rfl` costs forty times as much to elaborate

end Nice.Proofs.PTcpStream

namespace Nice.Proofs.PTcp
open Nice.PTcp Nice.Gen Nice.Proofs.PTcpStream

theorem setStateEstablished_eq {s s' : Sock} (h : setStateEstablished s = .ok s') :
    ∃ s2, adjustMTU { s with state := .established } = .ok s2 ∧ s' = emit s2 .opened := by
  obtain ⟨s1, h1, h⟩ := bind_ok h
  obtain ⟨s2, h2, h⟩ := bind_ok h
  cases h
  rw [setState_eq h1] at h2
  exact ⟨s2, h2, rfl⟩

theorem queueConnectMessage_eq {s s' : Sock} (h : queueConnectMessage s = .ok s') :
    ∃ w sl sb, s' = { s with snd_wnd := w, slist := sl, sbuf := sb } := by
  unfold queueConnectMessage at h
  obtain ⟨⟨_, s1⟩, hq, h⟩ := bind_ok h
  cases h
  obtain ⟨_, sl, _, sb, _, _, e⟩ := queue_eq hq
  cases e
  exact ⟨_, sl, sb, rfl⟩

theorem resizeReceiveBuffer_eq {s s' : Sock} {v : UInt32} (h : resizeReceiveBuffer s v = .ok s') :
    s' = s ∨ ∃ rb, s.rbuf.setCapacity (rcvBufSize v) = .ok (true, rb) ∧
      ∃ (len : UInt32) (sc : UInt8) (wnd : UInt32), sc < 32 ∧
        s' = { s with rbuf := rb, rbuf_len := len, rwnd_scale := sc, ssthresh := len, rcv_wnd := wnd } := by
  unfold resizeReceiveBuffer at h
  rcases ite_ok h with ⟨_, h⟩ | ⟨_, h⟩
  · cases h; exact Or.inl rfl
  · simp only at h
    rcases ite_ok h with ⟨_, h⟩ | ⟨hsc, h⟩
    · cases h
    · obtain ⟨⟨res, rb⟩, hc, h⟩ := bind_ok h
      cases res with
      | false => cases h; exact Or.inl rfl
      | true => cases h; exact Or.inr ⟨rb, hc, _, _, _, UInt8.not_le.mp hsc, rfl⟩

theorem applyOption_eq {s s' : Sock} {k : UInt8} {p : Array UInt8} {off len : Nat}
    (h : applyOption s k p off len = .ok s') :
    ∃ sc fa, (sc = s.swnd_scale ∨ ∃ v, sc = min v 14) ∧ s' = { s with swnd_scale := sc, support_fin_ack := fa } := by
  unfold applyOption at h
  rcases ite_ok h with ⟨_, h⟩ | ⟨_, h⟩
  · cases h; exact ⟨_, _, Or.inl rfl, rfl⟩
  · rcases ite_ok h with ⟨_, h⟩ | ⟨_, h⟩
    · rcases ite_ok h with ⟨_, h⟩ | ⟨_, h⟩
      · cases h; exact ⟨_, _, Or.inl rfl, rfl⟩
      · obtain ⟨v, _, h⟩ := bind_ok h
        cases h
        exact ⟨min v 14, s.support_fin_ack, Or.inr ⟨v, rfl⟩, rfl⟩
    · rcases ite_ok h with ⟨_, h⟩ | ⟨_, h⟩
      · cases h; exact ⟨s.swnd_scale, true, Or.inl rfl, rfl⟩
      · cases h; exact ⟨_, _, Or.inl rfl, rfl⟩

/-- by induction on `len - pos`, the measure the model function terminates by -/
theorem parseOptionsLoop_eq (p : Array UInt8) (base len : Nat) :
    ∀ (k pos : Nat), len - pos = k → ∀ (s : Sock) (w f : Bool) (r : Sock × Option (Bool × Bool)),
      parseOptionsLoop s p base len pos w f = .ok r →
      ∃ sc fa, (sc = s.swnd_scale ∨ ∃ v, sc = min v 14) ∧ r.1 = { s with swnd_scale := sc, support_fin_ack := fa } := by
  intro k
  induction k using Nat.strongRecOn with
  | _ k ih =>
    intro pos hk s w f r h
    have same : ∃ sc fa, (sc = s.swnd_scale ∨ ∃ v, sc = min v 14) ∧ s = { s with swnd_scale := sc, support_fin_ack := fa } :=
      ⟨_, _, Or.inl rfl, rfl⟩
    unfold parseOptionsLoop at h
    by_cases hpos : pos < len
    · rw [dif_pos hpos] at h
      rcases ite_ok h with ⟨_, h⟩ | ⟨_, h⟩
      · cases h; exact same
      · obtain ⟨kind, _, h⟩ := bind_ok h
        rcases ite_ok h with ⟨_, h⟩ | ⟨_, h⟩
        · cases h; exact same
        · rcases ite_ok h with ⟨_, h⟩ | ⟨_, h⟩
          · exact ih _ (by omega) _ rfl s w f r h
          · rcases ite_ok h with ⟨_, h⟩ | ⟨_, h⟩
            · cases h; exact same
            · obtain ⟨optLen, _, h⟩ := bind_ok h
              rcases ite_ok h with ⟨_, h⟩ | ⟨_, h⟩
              · cases h; exact same
              · rcases ite_ok h with ⟨_, h⟩ | ⟨_, h⟩
                · obtain ⟨s1, h1, h⟩ := bind_ok h
                  obtain ⟨sc1, fa1, hsc1, rfl⟩ := applyOption_eq h1
                  obtain ⟨sc, fa, hsc, hr⟩ := ih _ (by omega) _ rfl _ _ _ r h
                  exact ⟨sc, fa, hsc.elim (fun e => e ▸ hsc1) Or.inr, hr⟩
                · cases h; exact same
    · rw [dif_neg hpos] at h
      cases h; exact same

theorem parseOptions_eq {s s' : Sock} {p : Array UInt8} {base len : Nat} (h : parseOptions s p base len = .ok s') :
    ∃ sc fa s1 sc' fa', (sc = s.swnd_scale ∨ ∃ v, sc = min v 14) ∧ (sc' = sc ∨ sc' = 0) ∧
      (s1 = { s with swnd_scale := sc, support_fin_ack := fa } ∨
        resizeReceiveBuffer { s with swnd_scale := sc, support_fin_ack := fa } (UInt32.ofNat DEFAULT_RCV_BUF_SIZE) = .ok s1) ∧
      s' = { s1 with swnd_scale := sc', support_fin_ack := fa' } := by
  obtain ⟨⟨sl, r⟩, hl, h⟩ := bind_ok h
  obtain ⟨sc, fa, hsc, hsl⟩ := parseOptionsLoop_eq p base len _ 0 rfl s false false _ hl
  simp only at hsl
  subst hsl
  cases r with
  | none => cases h; exact ⟨sc, fa, _, sc, fa, hsc, Or.inl rfl, Or.inl rfl, rfl⟩
  | some wf =>
    obtain ⟨s1, h1, h⟩ := bind_ok h
    cases h
    rcases ite_ok h1 with ⟨_, h1⟩ | ⟨_, h1⟩
    · rcases ite_ok h1 with ⟨_, h1⟩ | ⟨_, h1⟩
      · obtain ⟨s2, h2, h1⟩ := bind_ok h1
        cases h1
        exact ⟨sc, fa, s2, 0, _, hsc, Or.inr rfl, Or.inr h2, rfl⟩
      · cases h1; exact ⟨sc, fa, _, sc, _, hsc, Or.inl rfl, Or.inl rfl, rfl⟩
    · cases h1; exact ⟨sc, fa, _, sc, _, hsc, Or.inl rfl, Or.inl rfl, rfl⟩

/-- `seg` cut to the receive window `[rcv_nxt, rcv_nxt + free ring space)` -/
def trimmed (s0 : Sock) (seg : Segment) : Segment :=
  trimRight s0.rcv_nxt s0.rbuf.getWriteRemaining (trimLeft s0.rcv_nxt seg)

theorem processData_cases {s : Sock} {seg : Segment} {p : Array UInt8} {rf : Bool} {clk : UInt32} {r : Bool × Sock}
    (h : processData s seg p rf clk = .ok r) :
    ∃ s1 sflags bNew s3,
      storeStage (pdPrep s) (dropPre (pdPrep s) (trimmed (pdPrep s) seg)) p (ignoreData (pdPrep s) (trimmed (pdPrep s) seg))
        (pdFlags (pdPrep s) seg rf) = .ok (s1, sflags, bNew) ∧
      attemptSend { s1 with rcv_nxt := if rf then s1.rcv_nxt + 1 else s1.rcv_nxt } sflags clk = .ok s3 ∧
      r = (true, emitIf (bNew && s3.bReadEnable) s3 .readable) := by
  rw [processData_eq] at h
  obtain ⟨⟨s1, sflags, bNew⟩, hst, h⟩ := bind_ok h
  obtain ⟨s3, has, h⟩ := bind_ok h
  cases h
  exact ⟨s1, sflags, bNew, s3, hst, has, rfl⟩

theorem storeStage_len0 (s : Sock) (seg : Segment) (p : Array UInt8) (b : Bool) (sf : SendFlags) (h : seg.len = 0) :
    storeStage s seg p b sf = .ok (s, sf, false) := by
  unfold storeStage
  have : ¬ seg.len > 0 := by rw [h]; exact UInt32.not_lt_zero
  rw [if_neg this]; rfl

theorem storeStage_ignore (s : Sock) (seg : Segment) (p : Array UInt8) (sf : SendFlags) (h : seg.len ≠ 0) :
    storeStage s seg p true sf =
      .ok ({ s with rcv_nxt := if seg.seq == s.rcv_nxt then s.rcv_nxt + seg.len else s.rcv_nxt }, sf, false) := by
  unfold storeStage
  rw [if_pos (UInt32.pos_iff_ne_zero.mpr h)]; rfl

theorem storeStage_cases {s : Sock} {seg : Segment} {p : Array UInt8} {b : Bool} {sf : SendFlags}
    {r : Sock × SendFlags × Bool} (h : storeStage s seg p b sf = .ok r) :
    (seg.len = 0 ∧ r = (s, sf, false)) ∨
    (seg.len ≠ 0 ∧ b = true ∧
      r = ({ s with rcv_nxt := if seg.seq == s.rcv_nxt then s.rcv_nxt + seg.len else s.rcv_nxt }, sf, false)) ∨
    (seg.len ≠ 0 ∧ b = false ∧
      ∃ rb1, s.rbuf.writeOffset p seg.dataOff seg.len.toNat (seg.seq - s.rcv_nxt).toNat = .ok (seg.len.toNat, rb1) ∧
        ((seg.seq ≠ s.rcv_nxt ∧
            r = ({ s with rbuf := rb1, rlist := rlistInsert { seq := seg.seq, len := seg.len } s.rlist }, sf, false)) ∨
         (seg.seq = s.rcv_nxt ∧ ∃ rb2 rl rb3 nxt wnd sf', rb1.consumeWriteBuffer seg.len.toNat = .ok rb2 ∧
            rlistRecover s.rlist rb2 (s.rcv_nxt + seg.len) (s.rcv_wnd - seg.len) sf = .ok (rl, rb3, nxt, wnd, sf') ∧
            r = ({ s with rbuf := rb3, rcv_nxt := nxt, rcv_wnd := wnd, rlist := rl }, sf', true)))) := by
  unfold storeStage at h
  rcases ite_ok h with ⟨hl, h⟩ | ⟨hl, h⟩
  · have hne : seg.len ≠ 0 := UInt32.pos_iff_ne_zero.mp hl
    rcases ite_ok h with ⟨hb, h⟩ | ⟨hb, h⟩
    · cases h; exact .inr (.inl ⟨hne, hb, rfl⟩)
    · obtain ⟨⟨res, rb⟩, hw, h⟩ := bind_ok h
      simp only at h
      rcases ite_ok h with ⟨_, h⟩ | ⟨hres, h⟩
      · obtain ⟨_, hf, _⟩ := bind_ok h
        cases hf
      · rw [show res = seg.len.toNat by simpa using hres] at hw
        refine .inr (.inr ⟨hne, by simpa using hb, rb, hw, ?_⟩)
        rcases ite_ok h with ⟨heq, h⟩ | ⟨heq, h⟩
        · obtain ⟨rb2, hcw, h⟩ := bind_ok h
          obtain ⟨⟨rl, rb3, nxt3, wnd3, sf3⟩, hrr, h⟩ := bind_ok h
          cases h
          exact .inr ⟨by simpa using heq, rb2, rl, rb3, nxt3, wnd3, sf3, hcw, hrr, rfl⟩
        · cases h; exact .inl ⟨by simpa using heq, rfl⟩
  · cases h; exact .inl ⟨UInt32.le_zero_iff.mp (UInt32.not_lt.mp hl), rfl⟩

theorem storeStage_eq {s : Sock} {seg : Segment} {p : Array UInt8} {b : Bool} {sf : SendFlags}
    {r : Sock × SendFlags × Bool} (h : storeStage s seg p b sf = .ok r) :
    ∃ rb nxt wnd rl, r.1 = { s with rbuf := rb, rcv_nxt := nxt, rcv_wnd := wnd, rlist := rl } := by
  rcases storeStage_cases h with ⟨_, rfl⟩ | ⟨_, _, rfl⟩ | ⟨_, _, _, _, ⟨_, rfl⟩ | ⟨_, _, _, _, _, _, _, _, _, rfl⟩⟩
  all_goals exact ⟨_, _, _, _, rfl⟩

/-- the `received_fin` test of `processFin` -/
def recvFin (s : Sock) (seg : Segment) : Bool :=
  s.rcv_nxt != 0 && seg.seq == s.rcv_nxt && s.rcv_nxt + seg.len == s.rcv_fin &&
    decide (seg.len.toNat ≤ s.rbuf.getWriteRemaining)

theorem recvFin_unpack (s : Sock) (seg : Segment) (h : recvFin s seg = true) :
    seg.seq = s.rcv_nxt ∧ s.rcv_nxt + seg.len = s.rcv_fin ∧ seg.len.toNat ≤ s.rbuf.getWriteRemaining ∧
      s.rcv_nxt ≠ 0 := by
  unfold recvFin at h
  simp only [Bool.and_eq_true, beq_iff_eq, decide_eq_true_eq, bne_iff_ne, ne_eq] at h
  exact ⟨h.1.1.2, h.1.2, h.2, h.1.1.1⟩

def finFsm (s : Sock) (received_fin is_fin_ack : Bool) : R Sock :=
  match s.state with
  | .established => if received_fin then setState s .closeWait else pure s
  | .closing => if is_fin_ack then setState s .timeWait else pure s
  | .lastAck => if is_fin_ack then setStateClosed s .none else pure s
  | .finWait1 =>
    if is_fin_ack && received_fin then setState s .timeWait
    else if is_fin_ack then setState s .finWait2
    else if received_fin then setState s .closing
    else pure s
  | .finWait2 => if received_fin then setState s .timeWait else pure s
  | .listen | .synSent | .synReceived | .timeWait | .closed | .closeWait => pure s

/-- the state `finFsm` moves to: the table of the switch -/
def finNext (a : TcpState) (rf fa : Bool) : TcpState :=
  match a with
  | .established => if rf then .closeWait else a
  | .closing => if fa then .timeWait else a
  | .lastAck => if fa then .closed else a
  | .finWait1 => if fa && rf then .timeWait else if fa then .finWait2 else if rf then .closing else a
  | .finWait2 => if rf then .timeWait else a
  | _ => a

/-- the switch changes the state only (`set_state_closed` is called with no error, so it logs nothing) -/
theorem finFsm_eq {s s' : Sock} {rf fa : Bool} (h : finFsm s rf fa = .ok s') :
    s' = { s with state := finNext s.state rf fa } := by
  have keep : finNext s.state rf fa = s.state → s = s' → s' = { s with state := finNext s.state rf fa } :=
    fun e1 e2 => by rw [e1, ← e2]
  have move : ∀ t, finNext s.state rf fa = t → setState s t = .ok s' → s' = { s with state := finNext s.state rf fa } :=
    fun t e1 e2 => by rw [e1, setState_eq e2]
  unfold finFsm at h
  cases hs : s.state <;> simp only [hs] at h <;> rw [hs] at keep move <;> cases rf <;> cases fa <;>
    first
    | exact keep rfl (Except.ok.inj h)
    | exact move _ rfl h
    | exact setStateClosed_eq h

theorem finNext_ph {a : TcpState} (rf fa : Bool) (h : a ≠ .listen ∧ a ≠ .synSent) :
    finNext a rf fa ≠ .listen ∧ finNext a rf fa ≠ .synSent := by
  cases a <;> cases rf <;> cases fa <;> first | exact h | exact ⟨by decide, by decide⟩

theorem finNext_listen {a : TcpState} {rf fa : Bool} (h : finNext a rf fa = .listen) : a = .listen := by
  cases a <;> cases rf <;> cases fa <;> first | rfl | cases h

theorem finNext_sentFin {a : TcpState} (rf fa : Bool) (h : hasSentFin a = true) :
    hasSentFin (finNext a rf fa) = true := by
  cases a <;> cases rf <;> cases fa <;> first | rfl | cases h

theorem finNext_open {a : TcpState} (fa : Bool)
    (h : a = .listen ∨ a = .synSent ∨ a = .synReceived ∨ a = .established) : finNext a false fa = a := by
  rcases h with e | e | e | e <;> rw [e] <;> rfl

def recordFin (s : Sock) (seg : Segment) : Sock :=
  { s with rcv_fin := if (seg.flags &&& cFLAG_FIN) != 0 then seg.seq else s.rcv_fin }

/-- `processFin` after the "a bit hacky" SYN-RECEIVED step -/
def pfMain (s : Sock) (seg : Segment) (p : Array UInt8) (is_fin_ack : Bool) (clk : UInt32) : R (Bool × Sock) :=
  if s.support_fin_ack then
    let s := recordFin s seg
    if (seg.flags &&& cFLAG_FIN) != 0 && seg.len != 0 then pure (false, s)
    else do
      let s' ← finFsm s (recvFin s seg) is_fin_ack
      processData s' seg p (recvFin s seg) clk
  else processData s seg p false clk

theorem processFin_eq (s : Sock) (seg : Segment) (p : Array UInt8) (bc fa : Bool) (clk : UInt32) :
    processFin s seg p bc fa clk = (do
      let s ← (if s.state = .synReceived && !bc then setStateEstablished s else pure s : R Sock)
      pfMain s seg p fa clk) := rfl

theorem processFin_cases {s : Sock} {seg : Segment} {p : Array UInt8} {bc fa : Bool} {clk : UInt32} {r : Bool × Sock}
    (h : processFin s seg p bc fa clk = .ok r) :
    ∃ s1, ((s.state = .synReceived ∧ bc = false ∧ setStateEstablished s = .ok s1) ∨
        (¬ (s.state = .synReceived ∧ bc = false) ∧ s1 = s)) ∧
      ((s1.support_fin_ack = false ∧ processData s1 seg p false clk = .ok r) ∨
       (s1.support_fin_ack = true ∧ (seg.flags &&& cFLAG_FIN) ≠ 0 ∧ seg.len ≠ 0 ∧ r = (false, recordFin s1 seg)) ∨
       (s1.support_fin_ack = true ∧
         processData { recordFin s1 seg with state := finNext s1.state (recvFin (recordFin s1 seg) seg) fa } seg p
           (recvFin (recordFin s1 seg) seg) clk = .ok r)) := by
  rw [processFin_eq] at h
  obtain ⟨s1, h1, h⟩ := bind_ok h
  refine ⟨s1, ?_, ?_⟩
  · rcases ite_ok h1 with ⟨c, h1⟩ | ⟨c, h1⟩
    · have := (Bool.and_eq_true _ _).mp c
      exact Or.inl ⟨by simpa using this.1, by simpa using this.2, h1⟩
    · cases h1
      exact Or.inr ⟨fun ⟨e1, e2⟩ => c (by rw [e1, e2]; rfl), rfl⟩
  · unfold pfMain at h
    rcases ite_ok h with ⟨c, h⟩ | ⟨c, h⟩
    · rcases ite_ok h with ⟨c2, h⟩ | ⟨_, h⟩
      · cases h
        have := (Bool.and_eq_true _ _).mp c2
        exact Or.inr (Or.inl ⟨c, by simpa using this.1, by simpa using this.2, rfl⟩)
      · obtain ⟨sc, hfsm, h⟩ := bind_ok h
        rw [finFsm_eq hfsm] at h
        exact Or.inr (Or.inr ⟨c, h⟩)
    · exact Or.inl ⟨by simpa using c, h⟩

theorem parse_eq (s : Sock) (p : Array UInt8) (clk : UInt32) :
    parse s p clk = (do let seg ← hdrOf p; process s seg p clk) := by
  unfold parse hdrOf
  simp only [bind_assoc, pure_bind]

/-- the socket with the arrival time of a packet recorded (first lines of `process`) -/
def arrived (s : Sock) (clk : UInt32) : Sock :=
  { s with last_traffic := getCurrentTime s clk, lastrecv := getCurrentTime s clk, bOutgoing := false }

/-- what the peer's connect message does before its acknowledgement number is looked at: option negotiation, then
    LISTEN → SYN-RECEIVED with our own connect message queued, or SYN-SENT → ESTABLISHED -/
def hsStep (s : Sock) (seg : Segment) (p : Array UInt8) : R Sock := do
  let s ← (if s.state = .listen || s.state = .synSent then
      parseOptions s p (seg.dataOff + 1) (seg.len - 1).toNat else pure s : R Sock)
  if s.state = .listen then do
    let s ← setState s .synReceived
    queueConnectMessage s
  else if s.state = .synSent then setStateEstablished s
  else pure s

theorem hsStep_id {s : Sock} (seg : Segment) (p : Array UInt8) (h1 : s.state ≠ .listen) (h2 : s.state ≠ .synSent) :
    hsStep s seg p = .ok s := by
  unfold hsStep
  simp only [h1, h2, decide_false, Bool.or_false, Bool.false_eq_true, if_false, pure_bind]
  rfl

theorem hsStep_cases {s s2 : Sock} {seg : Segment} {p : Array UInt8}
    (hst : s.state = .listen ∨ s.state = .synSent) (h : hsStep s seg p = .ok s2) :
    ∃ s1, parseOptions s p (seg.dataOff + 1) (seg.len - 1).toNat = .ok s1 ∧
      ((s1.state = .listen ∧ queueConnectMessage { s1 with state := .synReceived } = .ok s2) ∨
       (s1.state = .synSent ∧ setStateEstablished s1 = .ok s2) ∨
       (s1.state ≠ .listen ∧ s1.state ≠ .synSent ∧ s2 = s1)) := by
  obtain ⟨s1, h1, h⟩ := bind_ok h
  rw [if_pos (by rcases hst with e | e <;> rw [e] <;> rfl)] at h1
  refine ⟨s1, h1, ?_⟩
  rcases ite_ok h with ⟨c, h⟩ | ⟨c, h⟩
  · obtain ⟨s3, h3, h⟩ := bind_ok h
    rw [setState_eq h3] at h
    exact Or.inl ⟨c, h⟩
  · rcases ite_ok h with ⟨c2, h⟩ | ⟨c2, h⟩
    · exact Or.inr (Or.inl ⟨c2, h⟩)
    · cases h; exact Or.inr (Or.inr ⟨c, c2, rfl⟩)

theorem parse_cases {s : Sock} {p : Array UInt8} {clk : UInt32} {r : Bool × Sock} (h : parse s p clk = .ok r) :
    r = (false, s) ∨ ∃ seg, hdrOf p = .ok seg ∧ processBody s seg p clk = .ok r := by
  rw [parse_eq] at h
  obtain ⟨seg, hs, h⟩ := bind_ok h
  unfold process at h
  rcases ite_ok h with ⟨_, h⟩ | ⟨_, h⟩
  · cases h; exact Or.inl rfl
  · exact Or.inr ⟨seg, hs, h⟩

theorem notifyPacket_cases {s : Sock} {p : Array UInt8} {clk : UInt32} {r : Bool × Sock}
    (h : notifyPacket s p clk = .ok r) :
    (∃ e, r = (false, { s with error := e })) ∨ r = (false, s) ∨
      ∃ seg, hdrOf p = .ok seg ∧ processBody s seg p clk = .ok r := by
  unfold notifyPacket at h
  rcases ite_ok h with ⟨_, h⟩ | ⟨_, h⟩
  · cases h; exact Or.inl ⟨_, rfl⟩
  · rcases ite_ok h with ⟨_, h⟩ | ⟨_, h⟩
    · cases h; exact Or.inl ⟨_, rfl⟩
    · exact Or.inr (parse_cases h)

/-- `processBody` after the bookkeeping of the arrival time -/
def processBody0 (s : Sock) (now : UInt32) (seg : Segment) (p : Array UInt8) (clk : UInt32) : R (Bool × Sock) :=
  if s.state = .closed || (hasReceivedFinAck s.state && seg.len > 0) then
    if (seg.flags &&& cFLAG_RST) == 0 then do
      let s ← closedown s .none .loc clk
      pure (false, s)
    else pure (false, s)
  else if (seg.flags &&& cFLAG_RST) != 0 then do
    let s ← closedown s .ECONNRESET .remote clk
    pure (false, s)
  else if (seg.flags &&& cFLAG_CTL) != 0 then
    if seg.len == 0 then pure (false, s)
    else do
      let c ← rd p seg.dataOff
      if c.toNat = CTL_CONNECT then do
        let s ← (if s.state = .listen || s.state = .synSent then
            parseOptions s p (seg.dataOff + 1) (seg.len - 1).toNat else pure s : R Sock)
        let s ← (if s.state = .listen then do
            let s ← setState s .synReceived
            queueConnectMessage s
          else if s.state = .synSent then setStateEstablished s
          else pure s : R Sock)
        processAck s seg p true now clk
      else pure (false, s)
  else processAck s seg p false now clk

theorem processBody_eq0 (s : Sock) (seg : Segment) (p : Array UInt8) (clk : UInt32) :
    processBody s seg p clk = processBody0 (arrived s clk) (getCurrentTime s clk) seg p clk := rfl

theorem processBody_cases {s : Sock} {seg : Segment} {p : Array UInt8} {clk : UInt32} {r : Bool × Sock}
    (h : processBody s seg p clk = .ok r) :
    (∃ e src s1, closedown (arrived s clk) e src clk = .ok s1 ∧ r = (false, s1)) ∨ r = (false, arrived s clk) ∨
    (s.state ≠ .closed ∧ (seg.flags &&& cFLAG_CTL) ≠ 0 ∧
      ∃ s2, hsStep (arrived s clk) seg p = .ok s2 ∧ processAck s2 seg p true (getCurrentTime s clk) clk = .ok r) ∨
    (s.state ≠ .closed ∧ (seg.flags &&& cFLAG_CTL) = 0 ∧
      processAck (arrived s clk) seg p false (getCurrentTime s clk) clk = .ok r) := by
  rw [processBody_eq0] at h
  have est : (arrived s clk).state = s.state := rfl
  -- the socket as a variable: every step below would otherwise carry the record update of `arrived`
  generalize arrived s clk = s0 at h est ⊢
  unfold processBody0 at h
  rcases ite_ok h with ⟨hc, h⟩ | ⟨hc, h⟩
  · rcases ite_ok h with ⟨_, h⟩ | ⟨_, h⟩
    · obtain ⟨s1, h1, h⟩ := bind_ok h
      cases h; exact Or.inl ⟨_, _, s1, h1, rfl⟩
    · cases h; exact Or.inr (Or.inl rfl)
  · have hnc : s.state ≠ .closed := fun e => hc (by rw [est, e]; rfl)
    rcases ite_ok h with ⟨_, h⟩ | ⟨_, h⟩
    · obtain ⟨s1, h1, h⟩ := bind_ok h
      cases h; exact Or.inl ⟨_, _, s1, h1, rfl⟩
    · rcases ite_ok h with ⟨hctl, h⟩ | ⟨hctl, h⟩
      · rcases ite_ok h with ⟨_, h⟩ | ⟨_, h⟩
        · cases h; exact Or.inr (Or.inl rfl)
        · obtain ⟨c, _, h⟩ := bind_ok h
          rcases ite_ok h with ⟨_, h⟩ | ⟨_, h⟩
          · obtain ⟨s1, h1, h⟩ := bind_ok h
            obtain ⟨s2, h2, h⟩ := bind_ok h
            -- `processBody0` repeats the body of `hsStep` (`processBody_eq0` is `rfl`): `h1`, `h2` are its two steps
            exact Or.inr (Or.inr (Or.inl ⟨hnc, by simpa using hctl, s2, ok_bind h1 h2, h⟩))
          · cases h; exact Or.inr (Or.inl rfl)
      · exact Or.inr (Or.inr (Or.inr ⟨hnc, by simpa using hctl, h⟩))

/-- `recv` once the call is accepted and the ring read -/
def recvTail (s : Sock) (bytes : Array UInt8) (rb : Fifo) (clk : UInt32) : R (Int × Array UInt8 × Sock) :=
  let s := { s with rbuf := rb }
  if bytes.size == 0 && !(hasReceivedFin s.state || hasReceivedFinAck s.state) then
    pure (-1, #[], { s with bReadEnable := true, error := .EWOULDBLOCK })
  else
    if gsub s.rbuf.getWriteRemaining s.rcv_wnd.toNat ≥ (min (s.rbuf_len / 2) s.mss).toNat then do
      let bWasClosed := advWnd s.rcv_wnd s.rwnd_scale == 0
      let s := { s with rcv_wnd := UInt32.ofNat s.rbuf.getWriteRemaining }
      let s ← (if bWasClosed then attemptSend s .sfImmediateAck clk else pure s : R Sock)
      pure ((bytes.size : Int), bytes, s)
    else pure ((bytes.size : Int), bytes, s)

theorem recv_eq (s : Sock) (len : Nat) (clk : UInt32) : recv s len clk =
    (if s.support_fin_ack && s.shutdown_reads then pure (0, #[], s)
    else if !s.support_fin_ack && isClosed s then pure (0, #[], s)
    else if !s.support_fin_ack && s.state ≠ .established then pure (-1, #[], { s with error := .ENOTCONN })
    else if len == 0 then pure (0, #[], s)
    else do let r ← s.rbuf.read len; recvTail s r.1 r.2 clk) := rfl

theorem recv_cases {s : Sock} {len : Nat} {clk : UInt32} {ret : Int} {bytes : Array UInt8} {s' : Sock}
    (h : recv s len clk = .ok (ret, bytes, s')) :
    (bytes = #[] ∧ (s' = s ∨ s' = { s with error := .ENOTCONN }) ∧
      ((s.support_fin_ack = true ∧ s.shutdown_reads = true) ∨ s.support_fin_ack = false ∨ len = 0)) ∨
    ∃ bs rb, s.rbuf.read len = .ok (bs, rb) ∧
      ((bs.size = 0 ∧ (hasReceivedFin s.state || hasReceivedFinAck s.state) = false ∧ ret = -1 ∧ bytes = #[] ∧
          s' = { s with rbuf := rb, bReadEnable := true, error := .EWOULDBLOCK }) ∨
       (ret = bs.size ∧ bytes = bs ∧
          (s' = { s with rbuf := rb } ∨ s' = { s with rbuf := rb, rcv_wnd := UInt32.ofNat rb.getWriteRemaining } ∨
            attemptSend { s with rbuf := rb, rcv_wnd := UInt32.ofNat rb.getWriteRemaining } .sfImmediateAck clk = .ok s'))) := by
  rw [recv_eq] at h
  rcases ite_ok h with ⟨c, h⟩ | ⟨_, h⟩
  · cases h; exact Or.inl ⟨rfl, Or.inl rfl, Or.inl (by simpa using c)⟩
  · rcases ite_ok h with ⟨c, h⟩ | ⟨_, h⟩
    · cases h
      exact Or.inl ⟨rfl, Or.inl rfl, Or.inr (Or.inl (by have := (Bool.and_eq_true _ _).mp c; simpa using this.1))⟩
    · rcases ite_ok h with ⟨c, h⟩ | ⟨_, h⟩
      · cases h
        exact Or.inl ⟨rfl, Or.inr rfl, Or.inr (Or.inl (by have := (Bool.and_eq_true _ _).mp c; simpa using this.1))⟩
      · rcases ite_ok h with ⟨c, h⟩ | ⟨_, h⟩
        · cases h; exact Or.inl ⟨rfl, Or.inl rfl, Or.inr (Or.inr (by simpa using c))⟩
        · obtain ⟨⟨bs, rb⟩, hrd, h⟩ := bind_ok h
          refine Or.inr ⟨bs, rb, hrd, ?_⟩
          unfold recvTail at h
          rcases ite_ok h with ⟨c, h⟩ | ⟨_, h⟩
          · cases h
            have := (Bool.and_eq_true _ _).mp c
            exact Or.inl ⟨by simpa using this.1, by simpa using this.2, rfl, rfl, rfl⟩
          · refine Or.inr ?_
            rcases ite_ok h with ⟨_, h⟩ | ⟨_, h⟩
            · obtain ⟨s3, h3, h⟩ := bind_ok h
              cases h
              refine ⟨rfl, rfl, Or.inr ?_⟩
              rcases ite_ok h3 with ⟨_, h3⟩ | ⟨_, h3⟩
              · exact Or.inr h3
              · cases h3; exact Or.inl rfl
            · cases h; exact ⟨rfl, rfl, Or.inl rfl⟩

end Nice.Proofs.PTcp
