/-
  Builder proofs.  `stun_message_append` in closed form (a composition of pure updates) and the one
  statement the rest uses: `Appended` says, in bytes only, what the buffer looks like after a successful
  append on a builder state, whatever is then stored in the value.  The typed appends are that and a `memcpy`.
-/
import Nice.Proofs.StunFind
namespace Nice.Stun
open Nice.Gen Nice.Spec.Stun

/-- the attribute length field `stun_message_append` writes -/
def lenField (a : Option Cfg) (hc : Bool) (n : Nat) : UInt16 :=
  if noAlign a then UInt16.ofNat n else UInt16.ofNat (if hc then n else alignN n)

/-- padding bytes `stun_message_append` reserves -/
def padOf (a : Option Cfg) (n : Nat) : Nat := if noAlign a then 0 else paddingN n

def newLen (a : Option Cfg) (w : UInt16) (n : Nat) : UInt16 :=
  w + UInt16.ofNat (padOf a n) + UInt16.ofNat (4 + n)

/-- the buffer after a successful `stun_message_append` : four pure updates -/
def appendP (a : Option Cfg) (buf : Bytes) (w : UInt16) (type : UInt16) (n : Nat) (hc : Bool) : Bytes :=
  let b1 := setwP buf w.toNat (swapType a type)
  let b2 := setwP b1 (w.toNat + 2) (lenField a hc n)
  let b3 := blit b2 (w.toNat + 4 + n) (Array.replicate (padOf a n) 0)
  setwP b3 2 (newLen a w n - 20)

theorem padOf_le (a : Option Cfg) (n : Nat) (hn : n < 2 ^ 63) : padOf a n ≤ 3 := by
  unfold padOf; split
  · omega
  · rw [paddingN_eq n (by omega)]; omega

theorem append_eq (a : Option Cfg) (buf : Bytes) (type : UInt16) (n : Nat) (w : UInt16)
    (hw : messageLength buf = .ok w) (h20 : 20 ≤ buf.size) (hn : n < 2 ^ 63) :
    (w.toNat + 4 + n + padOf a n > buf.size → append a buf type n = .ok none) ∧
    (w.toNat + 4 + n + padOf a n ≤ buf.size →
      ∃ hc, hasCookie (setwP buf w.toNat (swapType a type)) = .ok hc ∧
        append a buf type n = .ok (some (appendP a buf w type n hc, w.toNat + 4))) := by
  -- the space check bounds every write; the arms differ only in `lenField` / `padOf`; a `blit` of no bytes is the identity
  have hwlt : w.toNat < 65536 := w.toNat_lt
  have hpad := padOf_le a n hn
  have hmod : (w.toNat + STUN_ATTRIBUTE_HEADER_LENGTH + n + padOf a n) % 2 ^ 64 = w.toNat + 4 + n + padOf a n := by
    have e : STUN_ATTRIBUTE_HEADER_LENGTH = 4 := rfl
    rw [e]; exact Nat.mod_eq_of_lt (by omega)
  unfold append
  rw [hw]
  simp only
  have hpd : (if noAlign a = true then 0 else paddingN n) = padOf a n := rfl
  rw [hpd, hmod]
  constructor
  · intro h; rw [if_pos h]
  · intro h
    rw [if_neg (by omega)]
    have hs1 : (setwP buf w.toNat (swapType a type)).size = buf.size := setwP_size _ _ _
    obtain ⟨hc, hhc⟩ := (hdr_reads_ok (setwP buf w.toNat (swapType a type)) (by omega)).2.2.2
    refine ⟨hc, hhc, ?_⟩
    rw [setw_eq (by omega)]
    simp only
    have e2 : STUN_MESSAGE_LENGTH_POS = 2 := rfl
    have e20 : STUN_MESSAGE_HEADER_LENGTH = 20 := rfl
    unfold appendP newLen
    cases hna : noAlign a
    · simp only [Bool.false_eq_true, if_false]
      rw [hhc]
      simp only
      have hlf : lenField a hc n = UInt16.ofNat (if hc = true then n else alignN n) := by
        simp [lenField, hna]
      have hpo : padOf a n = paddingN n := by simp [padOf, hna]
      rw [setw_eq (by rw [hs1]; omega), ← hlf]
      simp only
      by_cases hp0 : paddingN n > 0
      · rw [if_pos hp0, wrZeros_eq (by simp [setwP_size]; omega)]
        simp only
        rw [e2, e20, setw_eq (by simp [setwP_size, blit_size]; omega), hpo]
        rfl
      · rw [if_neg hp0]
        simp only
        have hz : paddingN n = 0 := by omega
        rw [e2, e20, setw_eq (by simp [setwP_size]; omega), hpo, hz]
        rw [blit_of_size_zero _ _ (by simp)]
        simp
    · simp only [if_true]
      have hlf : lenField a hc n = UInt16.ofNat n := by simp [lenField, hna]
      have hpo : padOf a n = 0 := by simp [padOf, hna]
      rw [setw_eq (by rw [hs1]; omega), ← hlf]
      simp only
      rw [e2, e20, setw_eq (by simp [setwP_size]; omega), hpo]
      rw [blit_of_size_zero _ _ (by simp)]
      simp

theorem appendP_size (a : Option Cfg) (buf : Bytes) (w type : UInt16) (n : Nat) (hc : Bool) :
    (appendP a buf w type n hc).size = buf.size := by
  simp [appendP, setwP_size, blit_size]

/-- whatever the buffer holds: a message length that wrapped at 16 bits still indexes inside -/
theorem append_ok (a : Option Cfg) (buf : Bytes) (type : UInt16) (n : Nat)
    (h20 : 20 ≤ buf.size) (hn : n < 2 ^ 63) : ∃ r, append a buf type n = .ok r := by
  obtain ⟨h1, h2⟩ := append_eq a buf type n _ (messageLength_eq (by omega)) h20 hn
  by_cases hfit : (UInt16.ofNat (getwN buf 2) + 20).toNat + 4 + n + padOf a n ≤ buf.size
  · obtain ⟨hc, _, h⟩ := h2 hfit; exact ⟨_, h⟩
  · exact ⟨_, h1 (by omega)⟩

theorem appendBytes_ok (a : Option Cfg) (buf : Bytes) (type : UInt16) (data : Bytes)
    (h20 : 20 ≤ buf.size) (hn : data.size < 2 ^ 63) : ∃ r, appendBytes a buf type data = .ok r := by
  obtain ⟨h1, h2⟩ := append_eq a buf type data.size _ (messageLength_eq (by omega)) h20 hn
  unfold appendBytes
  by_cases hfit : (UInt16.ofNat (getwN buf 2) + 20).toNat + 4 + data.size + padOf a data.size ≤ buf.size
  · obtain ⟨hc, _, h⟩ := h2 hfit
    rw [h]
    simp only
    split
    · rw [wrBytes_eq (by rw [appendP_size]; omega)]; exact ⟨_, rfl⟩
    · exact ⟨_, rfl⟩
  · rw [h1 (by omega)]; exact ⟨_, rfl⟩

theorem padOf_20 (a : Option Cfg) : padOf a 20 = 0 := by
  unfold padOf; split
  · rfl
  · rw [paddingN_eq 20 (by decide)]

theorem padOf_eq (a : Option Cfg) {n : Nat} (hn : n < 2 ^ 64) : padOf a n = padLen (!noAlign a) n := by
  unfold padOf padLen
  cases noAlign a
  · exact paddingN_eq n hn
  · rfl

/-- `b'` is `buf` (a message of length `w`) after `stun_message_append (t, n)` and any writes into the
    `n` value bytes: new length `w'`, attribute length field `lf` (`lfv`: without magic cookie and with
    aligned attributes libnice rounds it up to a multiple of 4) -/
structure Appended (a : Option Cfg) (buf : Bytes) (w t : UInt16) (n : Nat) (b' : Bytes) (w' lf : UInt16) :
    Prop where
  size : b'.size = buf.size
  len : w'.toNat = w.toNat + 4 + n + padOf a n
  fits : w'.toNat ≤ buf.size
  lfv : lf.toNat = n ∨ (noAlign a = false ∧ lf.toNat = n + pad4 n)
  hdr : getwN b' 2 + 20 = w'.toNat
  type : getwN b' w.toNat = (swapType a t).toNat
  lenf : getwN b' (w.toNat + 2) = lf.toNat
  below : ∀ j, j < w.toNat → j ≠ 2 → j ≠ 3 → b'.getD j 0 = buf.getD j 0
  above : ∀ j, w'.toNat ≤ j → b'.getD j 0 = buf.getD j 0

theorem lfv_bounds {na : Bool} {lf : UInt16} {n : Nat} (h : lf.toNat = n ∨ (na = false ∧ lf.toNat = n + pad4 n)) :
    n ≤ lf.toNat ∧ (n % 4 = 0 → lf = UInt16.ofNat n) := by
  have : n % 4 = 0 → pad4 n = 0 := by unfold pad4; omega
  refine ⟨by rcases h with e | ⟨_, e⟩ <;> omega, fun h4 => ?_⟩
  rw [← UInt16.ofNat_toNat (x := lf)]; congr 1
  rcases h with e | ⟨_, e⟩ <;> omega

namespace Appended
variable {a : Option Cfg} {buf b' : Bytes} {w t w' lf : UInt16} {n : Nat}

/-- nothing above speaks of the value bytes: a `memcpy` into them changes none of it -/
theorem write (h : Appended a buf w t n b' w' lf) {d : Bytes} (hd : d.size ≤ n) :
    wrBytes b' (w.toNat + 4) d = .ok (blit b' (w.toNat + 4) d) ∧
    Appended a buf w t n (blit b' (w.toNat + 4) d) w' lf := by
  have := h.len; have := h.fits; have := h.size
  have hg : ∀ j, (j < w.toNat + 4 ∨ w.toNat + 4 + n ≤ j) → (blit b' (w.toNat + 4) d).getD j 0 = b'.getD j 0 :=
    fun j hj => getD_blit_out (by omega)
  have hgw : ∀ off, off + 1 < w.toNat + 4 → getwN (blit b' (w.toNat + 4) d) off = getwN b' off :=
    fun off ho => getwN_blit_out (by omega)
  refine ⟨wrBytes_eq (by omega), by rw [blit_size]; exact h.size, h.len, h.fits, h.lfv, ?_, ?_, ?_, ?_, ?_⟩
  · rw [hgw 2 (by omega)]; exact h.hdr
  · rw [hgw _ (by omega)]; exact h.type
  · rw [hgw _ (by omega)]; exact h.lenf
  · intro j h1 h2 h3; rw [hg j (by omega)]; exact h.below j h1 h2 h3
  · intro j h1; rw [hg j (by omega)]; exact h.above j h1

/-- the walk steps over the new attribute by exactly what the message grew -/
theorem step (h : Appended a buf w t n b' w' lf) (hn : n < 2 ^ 63) :
    lf.toNat + padLen (!noAlign a) lf.toNat = n + padOf a n := by
  rw [padOf_eq a (by omega)]
  rcases h.lfv with e | ⟨hna, e⟩
  · rw [e]
  · rw [e, hna]; simp only [padLen, pad4, Bool.not_false, if_true]; omega

theorem walk (h : Appended a buf w t n b' w' lf) (hB : Built a buf w) (hn : n < 2 ^ 63) {as : List Attr}
    (hw : Walk buf (!noAlign a) w.toNat 20 as) :
    Walk b' (!noAlign a) w'.toNat 20 (as ++ [⟨(swapType a t).toNat, w.toNat + 4, lf.toNat⟩]) := by
  have := h.len; have := h.step hn; have := hB.ge20
  refine (hw.congr fun j h1 h2 => h.below j h2 (by omega) (by omega)).append ?_
  have hnew := Walk.cons (b := b') (pad := !noAlign a) (L := w'.toNat) (off := w.toNat) (as := [])
    (by rw [h.lenf]; omega) (by rw [h.lenf, show w.toNat + 4 + _ = w'.toNat by omega]; exact Walk.nil)
  rwa [h.type, h.lenf] at hnew

theorem built (h : Appended a buf w t n b' w' lf) (hB : Built a buf w) (hn : n < 2 ^ 63) : Built a b' w' := by
  have := h.len; have := h.fits; have := h.size; have := hB.ge20; have := w'.toNat_lt
  obtain ⟨as, hw⟩ := hB.walk
  refine ⟨?_, by omega, by omega, ?_, (tiles_iff_walk (by omega) (by omega)).mpr ⟨_, h.walk hB hn hw⟩, fun hna => ?_⟩
  · rw [messageLength_eq (by omega), Except.ok.injEq, ← UInt16.toNat_inj, UInt16.toNat_add, getwN_ofNat]
    have := h.hdr
    show (_ + 20) % 65536 = _
    omega
  · unfold byteN; rw [h.below 0 (by omega) (by omega) (by omega)]; exact hB.top
  · have := hB.mult4 hna
    rw [h.len, padOf_eq a (by omega), hna]
    simp only [padLen, pad4, Bool.not_false, if_true]; omega

theorem find (h : Appended a buf w t n b' w' lf) (hB : Built a buf w) (hn : n < 2 ^ 63) {as : List Attr}
    (hw : Walk buf (!noAlign a) w.toNat 20 as)
    (hF : ∀ x ∈ as, x.type ≠ (swapType a t).toNat ∧ x.type ≠ MESSAGE_INTEGRITY ∧ x.type ≠ FINGERPRINT) :
    find a b' t = .ok (some (w.toNat + 4, lf)) := by
  rw [find_walk t (h.built hB hn) (h.walk hB hn hw),
    refFindRec_append_new _ as ⟨(swapType a t).toNat, w.toNat + 4, lf.toNat⟩ rfl hF]
  simp only [Option.map, UInt16.ofNat_toNat]

end Appended

/-- `stun_message_append` on a builder state: NULL exactly when the attribute does not fit -/
theorem append_spec (a : Option Cfg) (buf : Bytes) (w t : UInt16) (n : Nat) (hB : Built a buf w)
    (hcap : buf.size ≤ 65535) (hn : n < 2 ^ 63) :
    (buf.size < w.toNat + 4 + n + padOf a n ∧ append a buf t n = .ok none) ∨
    ∃ b w' lf, append a buf t n = .ok (some (b, w.toNat + 4)) ∧ Appended a buf w t n b w' lf := by
  have hL := hB.ge20; have hle := hB.le_size
  obtain ⟨h1, h2⟩ := append_eq a buf t n w hB.len_ok (by omega) hn
  by_cases hfit : w.toNat + 4 + n + padOf a n ≤ buf.size
  · right
    obtain ⟨hc, _, happ⟩ := h2 hfit
    have hpad := padOf_le a n hn
    have e16 : (65536 : Nat) = 2 ^ 16 := by decide
    have hnl : (newLen a w n).toNat = w.toNat + 4 + n + padOf a n := by
      unfold newLen
      rw [UInt16.toNat_add, UInt16.toNat_add]
      simp only [UInt16.toNat_ofNat']
      omega
    have hz : (Array.replicate (padOf a n) (0 : UInt8)).size = padOf a n := Array.size_replicate ..
    refine ⟨_, newLen a w n, lenField a hc n, happ, appendP_size .., hnl, by omega, ?_, ?_, ?_, ?_, ?_, ?_⟩
    · have : pad4 n ≤ 3 := by unfold pad4; omega
      unfold lenField
      cases hna : noAlign a
      · cases hc
        · refine Or.inr ⟨rfl, ?_⟩
          simp only [Bool.false_eq_true, if_false]
          rw [alignN_eq_add_pad n (by omega), UInt16.toNat_ofNat']
          omega
        · left
          simp only [Bool.false_eq_true, if_false, if_true, UInt16.toNat_ofNat']
          omega
      · left
        simp only [if_true, UInt16.toNat_ofNat']
        omega
    -- each remaining field: read back through the four updates of `appendP`, outermost first
    · unfold appendP
      rw [getwN_setwP_self (by simp [blit_size, setwP_size]; omega)]
      rw [UInt16.toNat_sub_of_le _ _ (by rw [UInt16.le_iff_toNat_le, hnl]; show 20 ≤ _; omega)]
      show _ - 20 + 20 = _; omega
    · unfold appendP
      rw [getwN_setwP_ne (by omega), getwN_blit_out (by omega), getwN_setwP_ne (by omega),
        getwN_setwP_self (by omega)]
    · unfold appendP
      rw [getwN_setwP_ne (by omega), getwN_blit_out (by omega),
        getwN_setwP_self (by simp [setwP_size]; omega)]
    · intro j h1 h2 h3
      unfold appendP
      rw [getD_setwP_ne h2 h3, getD_blit_out (by omega), getD_setwP_ne (by omega) (by omega),
        getD_setwP_ne (by omega) (by omega)]
    · intro j h1
      unfold appendP
      rw [getD_setwP_ne (by omega) (by omega), getD_blit_out (by rw [hz]; omega),
        getD_setwP_ne (by omega) (by omega), getD_setwP_ne (by omega) (by omega)]
  · left; exact ⟨by omega, h1 (by omega)⟩

theorem append_write_spec (a : Option Cfg) (buf : Bytes) (w t : UInt16) (n : Nat) (d : Bytes) (hB : Built a buf w)
    (hcap : buf.size ≤ 65535) (hn : n < 2 ^ 63) (hd : d.size ≤ n) :
    (buf.size < w.toNat + 4 + n + padOf a n ∧ append a buf t n = .ok none) ∨
    ∃ b w' lf, append a buf t n = .ok (some (b, w.toNat + 4)) ∧
      wrBytes b (w.toNat + 4) d = .ok (blit b (w.toNat + 4) d) ∧
      Appended a buf w t n (blit b (w.toNat + 4) d) w' lf ∧ w.toNat + 4 + d.size ≤ b.size := by
  rcases append_spec a buf w t n hB hcap hn with h | ⟨b, w', lf, e, hA⟩
  · exact Or.inl h
  · obtain ⟨ew, hA'⟩ := hA.write hd
    exact Or.inr ⟨b, w', lf, e, ew, hA', by have := hA.len; have := hA.fits; have := hA.size; omega⟩

/-- a typed append of `d` under length `n` on a builder state: NOT_ENOUGH_SPACE and the buffer as it was,
    or SUCCESS and the value stored -/
def Stored (a : Option Cfg) (buf : Bytes) (w t : UInt16) (n : Nat) (d : Bytes) (x : M (Ret × Bytes)) : Prop :=
  (buf.size < w.toNat + 4 + n + padOf a n ∧ x = .ok (.noSpace, buf)) ∨
  ∃ b' w' lf, x = .ok (.success, b') ∧ Appended a buf w t n b' w' lf ∧ rdBytes b' (w.toNat + 4) d.size = .ok d

theorem appendBytes_spec (a : Option Cfg) (buf : Bytes) (w t : UInt16) (data : Bytes)
    (hB : Built a buf w) (hcap : buf.size ≤ 65535) (hn : data.size < 2 ^ 63) :
    Stored a buf w t data.size data (appendBytes a buf t data) := by
  unfold appendBytes
  rcases append_write_spec a buf w t data.size data hB hcap hn (Nat.le_refl _)
    with ⟨hno, h⟩ | ⟨b0, w', lf, h, ew, hA, hfit⟩
  · left; rw [h]; exact ⟨hno, rfl⟩
  · right
    refine ⟨_, w', lf, ?_, hA, rdBytes_blit hfit⟩
    rw [h]
    simp only
    split
    · rw [ew]
    · rw [blit_of_size_zero _ _ (by omega)]

/-- `stun_message_append (t, n)`, then `memcpy (value, d)`: `stun_message_append_error` and `_addr` (per family) -/
def appendStore (a : Option Cfg) (buf : Bytes) (t : UInt16) (n : Nat) (d : Bytes) : M (Ret × Bytes) :=
  match append a buf t n with
  | .error e => .error e
  | .ok none => .ok (.noSpace, buf)
  | .ok (some (b, off)) =>
    match wrBytes b off d with
    | .error e => .error e
    | .ok b => .ok (.success, b)

theorem appendStore_spec (a : Option Cfg) (buf : Bytes) (w t : UInt16) (n : Nat) (d : Bytes) (hB : Built a buf w)
    (hcap : buf.size ≤ 65535) (hn : n < 2 ^ 63) (hd : d.size ≤ n) :
    Stored a buf w t n d (appendStore a buf t n d) := by
  unfold appendStore
  rcases append_write_spec a buf w t n d hB hcap hn hd with ⟨hno, e⟩ | ⟨b, w', lf, e, ew, hA, hfit⟩
  · left; rw [e]; exact ⟨hno, rfl⟩
  · right; rw [e]; simp only; rw [ew]; exact ⟨_, w', lf, rfl, hA, rdBytes_blit hfit⟩

theorem appendError_eq (a : Option Cfg) (buf : Bytes) (code : Nat) :
    appendError a buf code = appendStore a buf (UInt16.ofNat STUN_ATTRIBUTE_ERROR_CODE) (4 + (strerror code).size)
      (#[0, 0, UInt8.ofNat (code / 100), UInt8.ofNat (code % 100)] ++ strerror code) := by
  unfold appendError appendStore
  simp only
  -- with the scrutinee left in place `rfl` would unfold `append`
  generalize append a buf _ _ = r
  rfl

/-- the value `stun_message_append_addr` stores: 0, family, port (big endian), address bytes -/
def encodeAddr (family : UInt8) (port : UInt16) (ip : Bytes) : Bytes :=
  #[0, family, UInt8.ofNat (port.toNat / 256), UInt8.ofNat port.toNat] ++ ip

/-- `stun_message_append_addr` with the family logic resolved -/
theorem appendAddr_eq (a : Option Cfg) (buf : Bytes) (t : UInt16) (addr : SockAddr) (addrlen : Nat) :
    appendAddr a buf t addr addrlen =
      if addrlen < sizeofSockaddr then .ok (.invalid, buf)
      else if addr.fam = 4 then
        appendStore a buf t (4 + 4) (encodeAddr 1 addr.port (takeZ addr.ip 4))
      else if addr.fam = 6 then
        if addrlen < sizeofSockaddrIn6 then .ok (.invalid, buf)
        else appendStore a buf t (4 + 16) (encodeAddr 2 addr.port (takeZ addr.ip 16))
      else .ok (.unsupported, buf) := by
  unfold appendAddr
  by_cases h0 : addrlen < sizeofSockaddr
  · rw [if_pos h0, if_pos h0]
  · rw [if_neg h0, if_neg h0]
    obtain ⟨fam, port, ip⟩ := addr
    unfold appendStore encodeAddr
    by_cases h4 : fam = 4
    · subst h4
      simp only [show ((4 : Nat) != 4) = false from rfl, show ((4 : Nat) == 4) = true from rfl, Bool.false_and,
        Bool.false_eq_true, if_false, if_true]
      -- as in `appendError_eq`: generalize the scrutinees before `rfl`
      generalize append a buf t _ = r
      rcases r with _ | _ | ⟨b, off⟩
      · rfl
      · rfl
      · simp only; generalize wrBytes _ _ _ = r2; cases r2 <;> rfl
    · by_cases h6 : fam = 6
      · subst h6
        simp only [show ((6 : Nat) != 6) = false from rfl, show ((6 : Nat) == 4) = false from rfl,
          show ((6 : Nat) == 6) = true from rfl, Bool.and_false, Bool.false_eq_true, if_false, if_true, if_neg h4]
        by_cases h28 : addrlen < sizeofSockaddrIn6
        · simp only [if_pos h28]
        · simp only [if_neg h28]
          generalize append a buf t _ = r
          rcases r with _ | _ | ⟨b, off⟩
          · rfl
          · rfl
          · simp only; generalize wrBytes _ _ _ = r2; cases r2 <;> rfl
      · have e4 : (fam == 4) = false := by simpa using h4
        have e6 : (fam == 6) = false := by simpa using h6
        simp only [bne, e4, e6, Bool.not_false, Bool.and_self, if_true, if_neg h4, if_neg h6]

/-- the two readings of a total specification: `x` returns; what it returns has the property -/
theorem ok_of_total {α : Type} {x : M α} {P : α → Prop} (h : ∃ r, x = .ok r ∧ P r) : ∃ r, x = .ok r :=
  let ⟨r, e, _⟩ := h; ⟨r, e⟩

theorem of_total {α : Type} {x : M α} {P : α → Prop} (h : ∃ r, x = .ok r ∧ P r) {r : α} (e : x = .ok r) : P r := by
  obtain ⟨r', e', hp⟩ := h
  rw [e] at e'; cases e'; exact hp

/-- a `cap`-byte buffer beginning with a well-formed message: what each builder step takes and hands on -/
def Good (a : Option Cfg) (cap : Nat) (b : Bytes) : Prop := b.size = cap ∧ ∃ w, Built a b w

/-- one typed append returned a status and the buffer is still good -/
def StepOk (a : Option Cfg) (cap : Nat) (r : M (Ret × Bytes)) : Prop :=
  ∃ p, r = .ok p ∧ Good a cap p.2

theorem StepOk.same {a : Option Cfg} {cap : Nat} {buf : Bytes} (hg : Good a cap buf) (r : Ret) :
    StepOk a cap (.ok (r, buf)) := ⟨(r, buf), rfl, hg⟩

theorem Stored.step {a : Option Cfg} {buf : Bytes} {w t : UInt16} {n : Nat} {d : Bytes} {x : M (Ret × Bytes)}
    (h : Stored a buf w t n d x) (hB : Built a buf w) (hn : n < 2 ^ 63) : StepOk a buf.size x := by
  rcases h with ⟨_, e⟩ | ⟨b', w', lf, e, hA, _⟩
  · exact ⟨_, e, rfl, w, hB⟩
  · exact ⟨_, e, hA.size, w', hA.built hB hn⟩

/-- a stored value is found and reads back when no earlier attribute has its type or is M-I / FINGERPRINT -/
theorem Stored.readback {a : Option Cfg} {buf b' : Bytes} {w t : UInt16} {n : Nat} {d : Bytes} {x : M (Ret × Bytes)}
    (h : Stored a buf w t n d x) (hB : Built a buf w) (hn : n < 2 ^ 63) {as : List Attr}
    (hw : Walk buf (!noAlign a) w.toNat 20 as)
    (hF : ∀ x ∈ as, x.type ≠ (swapType a t).toNat ∧ x.type ≠ MESSAGE_INTEGRITY ∧ x.type ≠ FINGERPRINT)
    (e : x = .ok (.success, b')) :
    ∃ w' lf, Appended a buf w t n b' w' lf ∧ find a b' t = .ok (some (w.toNat + 4, lf)) ∧
      rdBytes b' (w.toNat + 4) d.size = .ok d := by
  rcases h with ⟨_, e'⟩ | ⟨b0, w', lf, e', hA, hrd⟩
  · rw [e] at e'; cases e'
  · rw [e] at e'; cases e'
    exact ⟨w', lf, hA, hA.find hB hn hw hF, hrd⟩

theorem appendBytes_step (a : Option Cfg) (t : UInt16) (d : Bytes) {cap : Nat} {buf : Bytes} (hg : Good a cap buf)
    (hcap : cap ≤ 65535) (hd : d.size < 2 ^ 63) : StepOk a cap (appendBytes a buf t d) := by
  obtain ⟨rfl, w, hB⟩ := hg
  exact (appendBytes_spec a buf w t d hB hcap hd).step hB hd

theorem appendStore_step (a : Option Cfg) (t : UInt16) (n : Nat) (d : Bytes) {cap : Nat} {buf : Bytes}
    (hg : Good a cap buf) (hcap : cap ≤ 65535) (hn : n < 2 ^ 63) (hd : d.size ≤ n) :
    StepOk a cap (appendStore a buf t n d) := by
  obtain ⟨rfl, w, hB⟩ := hg
  exact (appendStore_spec a buf w t n d hB hcap hn hd).step hB hn

theorem strerror_size (code : Nat) : (strerror code).size ≤ 32 := by
  unfold strerror
  have hall : ∀ e ∈ stun_strerror_tab, e.2.length ≤ 32 := by decide
  cases h : stun_strerror_tab.find? (·.1 == code) with
  | none => simp only; decide
  | some e =>
    obtain ⟨c, str⟩ := e
    simp only
    have := hall _ (List.mem_of_find?_eq_some h)
    simpa using this

theorem appendError_step (a : Option Cfg) (code : Nat) {cap : Nat} {buf : Bytes} (hg : Good a cap buf)
    (hcap : cap ≤ 65535) : StepOk a cap (appendError a buf code) := by
  have := strerror_size code
  rw [appendError_eq]
  exact appendStore_step a _ _ _ hg hcap (by omega) (by simp)

theorem appendAddr_step (a : Option Cfg) (t : UInt16) (addr : SockAddr) (alen : Nat) {cap : Nat} {buf : Bytes}
    (hg : Good a cap buf) (hcap : cap ≤ 65535) : StepOk a cap (appendAddr a buf t addr alen) := by
  have hsz : ∀ f p k, (encodeAddr f p (takeZ addr.ip k)).size ≤ 4 + k := fun f p k => by simp [encodeAddr, takeZ]
  rw [appendAddr_eq]
  by_cases h0 : alen < sizeofSockaddr
  · rw [if_pos h0]; exact .same hg _
  rw [if_neg h0]
  by_cases h4 : addr.fam = 4
  · rw [if_pos h4]; exact appendStore_step a t _ _ hg hcap (by decide) (hsz ..)
  rw [if_neg h4]
  by_cases h6 : addr.fam = 6
  · rw [if_pos h6]
    by_cases h28 : alen < sizeofSockaddrIn6
    · rw [if_pos h28]; exact .same hg _
    · rw [if_neg h28]; exact appendStore_step a t _ _ hg hcap (by decide) (hsz ..)
  · rw [if_neg h6]; exact .same hg _

theorem appendXorAddrFull_step (a : Option Cfg) (t : UInt16) (addr : SockAddr) (alen : Nat) (ck : UInt32)
    {cap : Nat} {buf : Bytes} (hg : Good a cap buf) (hcap : cap ≤ 65535) :
    StepOk a cap (appendXorAddrFull a buf t addr alen ck) := by
  unfold appendXorAddrFull
  simp only
  obtain ⟨r, hr⟩ := xorAddress_ok buf addr (if alen > sizeofStorage then sizeofStorage else alen) ck
    (by obtain ⟨_, w, hB⟩ := hg; have := hB.ge20; have := hB.le_size; omega)
  rw [hr]
  obtain ⟨ret, tmp⟩ := r
  cases ret with
  | success => exact appendAddr_step a t tmp _ hg hcap
  | notFound | invalid | noSpace | unsupported => exact .same hg _

theorem cstr_size (s : Bytes) : (cstr s).size ≤ s.size := by
  unfold cstr
  simp only [List.size_toArray]
  have := List.Sublist.length_le (List.takeWhile_sublist (fun x : UInt8 => x != 0) (l := s.toList))
  simpa using this

theorem appendSoftware_eq (a : Option Cfg) (buf : Bytes) (s : Option Bytes) :
    appendSoftware a buf s =
      match softwareLen (s.getD PACKAGE_STRING.toArray) 0 0 129 with
      | .error e => .error e
      | .ok n =>
        if n > (s.getD PACKAGE_STRING.toArray).size then .error .oob
        else appendBytes a buf (UInt16.ofNat STUN_ATTRIBUTE_SOFTWARE) ((s.getD PACKAGE_STRING.toArray).extract 0 n) := by
  cases s <;> rfl

/-- `stun_message_init` never faults; for a class < 4 (a `StunClass`) it leaves a well-formed empty message -/
theorem messageInit_spec (a : Option Cfg) (buf : Bytes) (c m : Nat) (id : Bytes) :
    ∃ r, messageInit buf c m id = .ok r ∧
      (c < 4 → ∀ b, r = some b → Built a b 20 ∧ b.size = buf.size) := by
  unfold messageInit
  rw [show STUN_MESSAGE_HEADER_LENGTH = 20 from rfl, show STUN_MESSAGE_TRANS_ID_POS = 4 from rfl,
    show STUN_MESSAGE_TRANS_ID_LEN = 16 from rfl]
  by_cases hlt : buf.size < 20
  · rw [if_pos hlt]; exact ⟨_, rfl, fun _ b h => by cases h⟩
  · have hidsz : (id.extract 0 16).size ≤ 16 := by simp; omega
    rw [if_neg hlt, wrZeros_eq (by omega)]
    simp only
    rw [wr_eq (by simp [blit_size]; omega)]
    simp only
    rw [wr_eq (by simp [blit_size]; omega)]
    simp only
    rw [wrBytes_eq (by simp [blit_size]; omega)]
    refine ⟨_, rfl, fun hc b h => ?_⟩
    cases h
    have h20 : (20 : UInt16).toNat = 20 := rfl
    -- behind the four writes: the first type byte at 0, zeros at 2 and 3
    have hz : ∀ j, j < 4 → (blit buf 0 (Array.replicate 4 (0 : UInt8))).getD j 0 = 0 := fun j hj => by
      rw [blit_getD _ _ _ _ (by simp; omega), if_pos (by simp; omega)]
      simp [Array.getD_eq_getD_getElem?, hj]
    generalize hB : blit (((blit buf 0 (Array.replicate 4 0)).setIfInBounds 0 (setType c m).1).setIfInBounds 1
      (setType c m).2) 4 (id.extract 0 16) = B
    have hb0 : B.getD 0 0 = (setType c m).1 := by
      rw [← hB, getD_blit_out (by omega), getD_set, if_neg (by omega), getD_set,
        if_pos ⟨rfl, by simp [blit_size]; omega⟩]
    have hb23 : ∀ j, j = 2 ∨ j = 3 → B.getD j 0 = 0 := fun j hj => by
      rw [← hB, getD_blit_out (by omega), getD_set, if_neg (by omega), getD_set, if_neg (by omega), hz j (by omega)]
    have hsz : B.size = buf.size := by rw [← hB]; simp [blit_size]
    refine ⟨⟨?_, by rw [h20]; omega, by rw [h20, hsz]; omega, ?_, ?_, fun _ => by decide⟩, hsz⟩
    · have : getwN B 2 = 0 := by simp [getwN, byteN, hb23 2 (Or.inl rfl), hb23 3 (Or.inr rfl)]
      rw [messageLength_eq (by omega), this]; rfl
    · unfold byteN; rw [hb0]
      unfold setType
      simp only [UInt8.toNat_ofNat']
      have h1 : c >>> 1 < 2 ^ 6 := by rw [Nat.shiftRight_eq_div_pow]; omega
      have h2 : (m >>> 6) &&& 0x3e < 2 ^ 6 := Nat.lt_of_le_of_lt Nat.and_le_right (by decide)
      have := Nat.or_lt_two_pow h1 h2
      omega
    · have : (20 : UInt16).toNat - 20 = 0 := by decide
      rw [this, seg_zero]; exact Tiles.nil

theorem init_built (a : Option Cfg) (buf : Bytes) (c m : Nat) (id b : Bytes) (hc : c < 4)
    (h : messageInit buf c m id = .ok (some b)) : Built a b 20 ∧ b.size = buf.size :=
  (of_total (messageInit_spec a buf c m id) h) hc b rfl

end Nice.Stun
