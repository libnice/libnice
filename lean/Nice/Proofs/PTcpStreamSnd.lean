/-
  The send side: the ghost stream `Q` of everything queued into the send ring (connect message, then the bytes `send`
  accepted) and the sender invariant `SInv` — ring content = `Q[a ..]`, `snd_una ≡ a + f`, every packet written so far
  carries the slice of `Q` at an absolute position congruent to its sequence number.  `SInv` follows `SndRel`, `queue`
  extends `Q` by what it accepts, an acknowledgement drops the ring's front.
-/
import Nice.Proofs.PTcpRing
import Nice.Proofs.PTcpFrame
namespace Nice.Proofs.PTcpStream
open Nice.PTcp Nice.Gen Nice.Proofs.PTcp

/-- the payload is empty, or it is the slice of `Q` at an absolute position `k ≡ seq (mod 2^32)` -/
def PktSlice (Q : List UInt8) (seq : UInt32) (payload : Array UInt8) : Prop :=
  payload.size = 0 ∨ ∃ k, k % 2 ^ 32 = seq.toNat ∧ k + payload.size ≤ Q.length ∧
    ∀ j, j < payload.size → payload[j]?.getD 0 = Q.getD (k + j) 0

/-- a written packet is a 24-byte header for some sequence number followed by a `PktSlice` payload -/
def EvOk (Q : List UInt8) : Event → Prop
  | .packet b => ∃ (s0 : Sock) (seq : UInt32) (fl : UInt8) (wnd : UInt16) (now : UInt32) (payload : Array UInt8),
      b = buildHeader s0 seq fl wnd now ++ payload ∧ PktSlice Q seq payload
  | _ => True

def OutOk (Q : List UInt8) (out : Array Event) : Prop := ∀ e, e ∈ out → EvOk Q e

theorem pktSlice_mono {Q : List UInt8} (X : List UInt8) {seq : UInt32} {pl : Array UInt8} (h : PktSlice Q seq pl) :
    PktSlice (Q ++ X) seq pl := by
  rcases h with h | ⟨k, h1, h2, h3⟩
  · exact Or.inl h
  · refine Or.inr ⟨k, h1, by rw [List.length_append]; omega, ?_⟩
    intro j hj
    rw [h3 j hj, List.getD_eq_getElem?_getD, List.getD_eq_getElem?_getD, List.getElem?_append_left (by omega)]

theorem outOk_mono {Q : List UInt8} (X : List UInt8) {out : Array Event} (h : OutOk Q out) : OutOk (Q ++ X) out := by
  intro e he
  have := h e he
  cases e with
  | packet b =>
    obtain ⟨s0, seq, fl, wnd, now, pl, e1, e2⟩ := this
    exact ⟨s0, seq, fl, wnd, now, pl, e1, pktSlice_mono X e2⟩
  | _ => trivial

/-- **the sender invariant.**  `a` = bytes acknowledged and dropped from the ring, `f` = FIN sequence numbers
    acknowledged. -/
structure SInv (Q : List UInt8) (a f : Nat) (s : Sock) : Prop where
  fok : FOk s.sbuf
  len : a + s.sbuf.data = Q.length
  com : ∀ i, i < s.sbuf.data → byteAt s.sbuf i = Q.getD (a + i) 0
  una : s.snd_una.toNat = (a + f) % 2 ^ 32
  fz : f ≠ 0 → hasSentFin s.state = true ∧ s.sbuf.data = 0
  lq : s.state = .listen → Q = []
  out : OutOk Q s.out

def SInvE (Q : List UInt8) (s : Sock) : Prop := ∃ a f, SInv Q a f s

section
variable {Q : List UInt8} {s s' : Sock}

theorem SInv.evOk {a f : Nat} (hi : SInv Q a f s) {e : Event} (he : SentEv s.sbuf s.snd_una e) : EvOk Q e := by
  cases e with
  | packet b =>
    obtain ⟨s0, seq, fl, wnd, now, pl, rfl, hpl⟩ := he
    refine ⟨s0, seq, fl, wnd, now, pl, rfl, ?_⟩
    rcases hpl with rfl | ⟨len, cap, hl, hsz, hro⟩
    · exact .inl rfl
    · have ⟨hs, hby⟩ := readOffset_content hi.fok hro
      -- a data packet can be read only while the ring is not empty, so no FIN has been acknowledged
      have hf0 : f = 0 := Classical.byContradiction fun hf => by have := (hi.fz hf).2; omega
      have hu := hi.una
      have hseq : (s.snd_una + (seq - s.snd_una)).toNat = seq.toNat := by
        rw [UInt32.add_comm, UInt32.sub_add_cancel]
      rw [UInt32.toNat_add, hu, hf0] at hseq
      refine .inr ⟨a + (seq - s.snd_una).toNat, by omega, by have := hi.len; omega, fun j hj => ?_⟩
      rw [hby j hj, hi.com _ (by omega)]
      congr 1; omega
  | _ => trivial

theorem SInv.snd {a f : Nat} (k : SndRel s s') (hi : SInv Q a f s) : SInv Q a f s' := by
  have e1 : s'.sbuf = s.sbuf := k.sbuf
  have e2 : s'.snd_una = s.snd_una := k.snd_una
  exact ⟨e1 ▸ hi.fok, e1 ▸ hi.len, e1 ▸ hi.com, e2 ▸ hi.una, fun hf => e1 ▸ ⟨k.fin (hi.fz hf).1, (hi.fz hf).2⟩,
    fun hl => hi.lq (k.listen hl), fun e he => (k.out e he).elim (hi.out e) hi.evOk⟩

theorem SInvE.snd (k : SndRel s s') : SInvE Q s → SInvE Q s' := fun ⟨a, f, hi⟩ => ⟨a, f, hi.snd k⟩

end

section
variable (Q : List UInt8)

theorem setState_sinv {a f : Nat} (s s' : Sock) (t : TcpState) (hi : SInv Q a f s) (ht : t ≠ .listen)
    (hm : hasSentFin s.state = true → hasSentFin t = true) (h : setState s t = .ok s') : SInv Q a f s' := by
  rw [setState_eq h]
  exact ⟨hi.fok, hi.len, hi.com, hi.una, fun hf => ⟨hm (hi.fz hf).1, (hi.fz hf).2⟩, fun e => absurd e ht, hi.out⟩

end

/-- the first `c` bytes of `d` (zero-extended), as a list -/
def firstBytes (d : Array UInt8) (c : Nat) : List UInt8 := (List.range c).map (fun j => d.getD j 0)

theorem firstBytes_length (d : Array UInt8) (c : Nat) : (firstBytes d c).length = c := by
  simp [firstBytes]

theorem firstBytes_getD (d : Array UInt8) (c j : Nat) (h : j < c) : (firstBytes d c).getD j 0 = d.getD j 0 := by
  simp [firstBytes, List.getD_eq_getElem?_getD, h]

section
variable (Q : List UInt8)

theorem queue_sinv {a f : Nat} (s : Sock) (d : Array UInt8) (len : UInt32) (fl : UInt8) (r : UInt32 × Sock)
    (hi : SInv Q a f s) (hns : hasSentFin s.state = false ∧ s.state ≠ .listen) (h : queue s d len fl = .ok r) :
    SInv (Q ++ firstBytes d r.1.toNat) a f r.2 ∧ r.1.toNat ≤ len.toNat ∧ r.2.state = s.state := by
  obtain ⟨len', sl, copy, sb, hlen', hw, rfl⟩ := queue_eq h
  have ⟨hc, hd, hold, hnew⟩ := fifo_write_appends hi.fok hw
  have ⟨hf, hsz⟩ := write_ok hi.fok hw
  have hcn : (UInt32.ofNat copy).toNat = copy := by
    rw [UInt32.toNat_ofNat']; have := len'.toNat_lt; omega
  have hlenQ := hi.len
  refine ⟨⟨hf, ?_, ?_, hi.una, fun hf0 => absurd (hi.fz hf0).1 (by rw [hns.1]; decide),
    fun hst => absurd hst hns.2, outOk_mono _ hi.out⟩, by show (UInt32.ofNat copy).toNat ≤ _; omega, rfl⟩
  · show a + sb.data = (Q ++ firstBytes d (UInt32.ofNat copy).toNat).length
    rw [List.length_append, firstBytes_length, hcn, hd]; omega
  · intro i (hi' : i < sb.data)
    show byteAt sb i = (Q ++ firstBytes d (UInt32.ofNat copy).toNat).getD (a + i) 0
    rw [hcn, List.getD_eq_getElem?_getD]
    by_cases h1 : i < s.sbuf.data
    · rw [hold i h1, hi.com i h1, List.getD_eq_getElem?_getD, List.getElem?_append_left (by omega)]
    · have e : i = s.sbuf.data + (i - s.sbuf.data) := by omega
      rw [e, hnew _ (by omega), List.getElem?_append_right (by omega), ← List.getD_eq_getElem?_getD,
        show a + (s.sbuf.data + (i - s.sbuf.data)) - Q.length = i - s.sbuf.data by omega,
        firstBytes_getD _ _ _ (by omega)]

/-- `k` bytes leave the front of the ring: `a` moves by `k`; the new FIN count `f'` and its two facts are the caller's -/
theorem SInv.consume {a f k : Nat} {s s' : Sock} (hi : SInv Q a f s) (hc : s.sbuf.consumeReadData k = .ok s'.sbuf)
    (e3 : s'.state = s.state) (e4 : s'.out = s.out) (f' : Nat) (hu : s'.snd_una.toNat = (a + k + f') % 2 ^ 32)
    (hfz : f' ≠ 0 → hasSentFin s.state = true ∧ s.sbuf.data - k = 0) : SInv Q (a + k) f' s' := by
  have hlen := hi.len
  have hf' := (consumeReadData_ok hi.fok hc).1
  obtain ⟨hk, _, e1⟩ := consumeReadData_eq hc
  refine ⟨hf', ?_, ?_, hu, ?_, e3 ▸ hi.lq, e4 ▸ hi.out⟩
  · rw [e1]; show a + k + (s.sbuf.data - k) = _; omega
  · rw [e1]; intro i (hi' : i < s.sbuf.data - k)
    rw [byteAt_consumed, hi.com _ (by omega)]
    exact congrArg (Q.getD · 0) (by omega)
  · rw [e3, e1]; exact hfz

theorem ack_sinvE (s : Sock) (ack : UInt32) (s' : Sock) (hi : SInvE Q s)
    (hc : s.sbuf.consumeReadData (ackLen (core s) ack).toNat = .ok s'.sbuf)
    (e2 : s'.snd_una = ack) (e3 : s'.state = s.state) (e4 : s'.out = s.out) : SInvE Q s' := by
  obtain ⟨a, f, hi⟩ := hi
  have hu := hi.una
  have hk := (consumeReadData_eq hc).1
  have hack : ack.toNat = (s.snd_una.toNat + (ack - s.snd_una).toNat) % 2 ^ 32 := by
    have : s.snd_una + (ack - s.snd_una) = ack := by rw [UInt32.add_comm, UInt32.sub_add_cancel]
    rw [← UInt32.toNat_add, this]
  by_cases c : (ack - s.snd_una).toNat = s.sbuf.data + 1 ∧ hasSentFin s.state = true
  · -- the acknowledgement covers the FIN: the whole ring is dropped
    have e : ackLen (core s) ack = ack - s.snd_una - 1 := ackLen_fin c.1 c.2
    rw [e, UInt32.toNat_sub_of_le _ _ (UInt32.le_iff_toNat_le.mpr (by rw [UInt32.toNat_one]; omega)), UInt32.toNat_one, c.1, Nat.add_sub_cancel] at hc
    exact ⟨_, f + 1, SInv.consume Q hi hc e3 e4 (f + 1) (by rw [e2, hack, hu, c.1]; omega) fun _ => ⟨c.2, Nat.sub_self _⟩⟩
  · have e : ackLen (core s) ack = ack - s.snd_una := ackLen_plain c
    rw [e] at hc hk
    exact ⟨_, f, SInv.consume Q hi hc e3 e4 f (by rw [e2, hack, hu]; omega)
      fun hf => ⟨(hi.fz hf).1, by have := (hi.fz hf).2; omega⟩⟩

theorem SInvE.acked {s s' : Sock} (h : AckRel s s') (hi : SInvE Q s) : SInvE Q s' := by
  obtain ⟨sm, ha, hs⟩ := h
  refine SInvE.snd (snd_of_sent hs) ?_
  have e3 : sm.state = s.state := ha.state
  have e4 : sm.out = s.out := ha.out
  have e5 : (sm.sbuf = s.sbuf ∧ sm.snd_una = s.snd_una) ∨
      s.sbuf.consumeReadData (ackLen (core s) sm.snd_una).toNat = .ok sm.sbuf := ha.ack
  rcases e5 with ⟨e1, e2⟩ | e
  · exact SInvE.snd (SndRel.same e1 e2 e3 e4) hi
  · exact ack_sinvE Q s sm.snd_una sm hi e rfl e3 e4

end

theorem processAck_sinv (Q : List UInt8) (s : Sock) (seg : Segment) (p : Array UInt8) (bc : Bool) (now clk : UInt32)
    (r : Bool × Sock) (hi : SInvE Q s) (h : processAck s seg p bc now clk = .ok r) : SInvE Q r.2 := by
  obtain ⟨s1, hrel, hend⟩ := processAck_cases h
  have h1 := SInvE.acked Q hrel hi
  rcases hend with rfl | ⟨e, hcd, _⟩ | ⟨fa, hf⟩
  · exact h1
  · exact SInvE.snd (snd_of_sent (closedown_sent hcd)) h1
  · exact SInvE.snd (processFin_snd hf) h1

end Nice.Proofs.PTcpStream
