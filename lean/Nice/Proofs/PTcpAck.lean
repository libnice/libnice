/-
  `processAck` once, for every invariant: cut into stages (definitionally the same function), each inverted.  It is an
  acknowledgement (`Core.Acked`), possibly a fast retransmission (`SendRel False`), and then `AckEnd`.
-/
import Nice.Proofs.PTcpSend
namespace Nice.Proofs.PTcp
open Nice.PTcp Nice.Gen

/-- "Update timestamp" -/
def ackStamp (s : Sock) (seg : Segment) : Sock :=
  { s with ts_recent :=
      if lt? (ptcp_smaller_or_equal seg.seq s.ts_lastack) && lt? (ptcp_smaller s.ts_lastack (seg.seq + seg.len))
      then seg.tsval else s.ts_recent }

/-- fast retransmission; `tweak` is the congestion bookkeeping after a success -/
def fastRetransmit (s : Sock) (tweak : Sock → Sock) (seg : Segment) (p : Array UInt8) (bc fa : Bool) (now clk : UInt32) :
    R (Bool × Sock) := do
  let (st, s) ← transmit s 0 now
  if st != .none then do
    let s ← closedown s st .loc clk
    pure (false, s)
  else processFin (tweak s) seg p bc fa clk

/-- NewReno: leave fast recovery or retransmit; else slow start / congestion avoidance -/
def ackGrow (s : Sock) (seg : Segment) (p : Array UInt8) (bc fa : Bool) (nAcked now clk : UInt32) : R (Bool × Sock) :=
  if s.dup_acks ≥ 3 then
    if lt? (ptcp_larger_or_equal s.snd_una s.recover) then
      let nInFlight := s.snd_nxt - s.snd_una
      let s := { s with cwnd := min s.ssthresh (max nInFlight s.mss + s.mss), fast_recovery := false, dup_acks := 0 }
      processFin s seg p bc fa clk
    else
      fastRetransmit s (fun s => { s with cwnd := s.cwnd + ((if nAcked > s.mss then s.mss else 0) - min nAcked s.cwnd) })
        seg p bc fa now clk
  else
    let s : Sock := { s with dup_acks := 0 }
    if s.cwnd < s.ssthresh then
      processFin { s with cwnd := s.cwnd + s.mss } seg p bc fa clk
    else if s.cwnd == (0 : UInt32) then fault (.ub "process: mss * mss / cwnd")
    else
      let q : UInt32 := (s.mss * s.mss) / s.cwnd
      let inc : Nat := max 1 q.toNat
      processFin { s with cwnd := s.cwnd + UInt32.ofNat inc } seg p bc fa clk

/-- the `is_valuable_ack` branch, from `rttSample` on -/
def ackValuable (s : Sock) (seg : Segment) (p : Array UInt8) (bc : Bool) (rtt : Int) (now clk : UInt32) :
    R (Bool × Sock) := do
  let s ← rttSample s seg.tsecr rtt
  let wnd ← shiftWnd seg.wnd s.swnd_scale
  let s := { s with snd_wnd := wnd }
  let nAcked := seg.ack - s.snd_una
  let s := { s with snd_una := seg.ack }
  let s := { s with rto_base := if s.snd_una == s.snd_nxt then 0 else armed now }
  let (is_fin_ack, nAcked) :=
    if nAcked.toNat == s.sbuf.data + 1 && hasSentFin s.state then (true, nAcked - 1) else (false, nAcked)
  let sb ← s.sbuf.consumeReadData nAcked.toNat
  let s := { s with sbuf := sb }
  let (sl, largest) ← ackLoop s.largest nAcked s.slist
  let s := { s with slist := sl, largest := largest }
  ackGrow s seg p bc is_fin_ack nAcked now clk

/-- the third duplicate in a row retransmits and enters fast recovery -/
def ackDuplicate (s : Sock) (seg : Segment) (p : Array UInt8) (bc : Bool) (now clk : UInt32) : R (Bool × Sock) := do
  let wnd ← shiftWnd seg.wnd s.swnd_scale
  let s := { s with snd_wnd := wnd }
  if seg.len > 0 then processFin s seg p bc false clk
  else if s.snd_una != s.snd_nxt then
    let s := { s with dup_acks := s.dup_acks + 1 }
    if s.dup_acks == 3 then
      if lt? (ptcp_larger_or_equal s.snd_una s.recover) || seg.tsecr == s.last_acked_ts then
        fastRetransmit s (fun s =>
          let nInFlight := s.snd_nxt - s.snd_una
          let ssthresh := max (nInFlight / 2) (2 * s.mss)
          { s with recover := s.snd_nxt, ssthresh := ssthresh, cwnd := ssthresh + 3 * s.mss, fast_recovery := true })
          seg p bc false now clk
      else processFin s seg p bc false clk
    else if s.dup_acks > 3 then
      processFin { s with cwnd := if s.fast_recovery then s.cwnd + s.mss else s.cwnd } seg p bc false clk
    else processFin s seg p bc false clk
  else processFin { s with dup_acks := 0 } seg p bc false clk

theorem processAck_eq (s : Sock) (seg : Segment) (p : Array UInt8) (bc : Bool) (now clk : UInt32) :
    processAck s seg p bc now clk =
      (let s := ackStamp s seg
       if s.support_fin_ack && (seg.flags &&& cFLAG_FIN) != 0 && seg.len != 0 then pure (false, s)
       else if lt? (ptcp_larger seg.ack s.snd_una) && lt? (ptcp_smaller_or_equal seg.ack s.snd_nxt) then
         (if seg.tsecr != 0 && (time_diff now seg.tsecr).toInt < 0 then pure (false, s)
          else ackValuable s seg p bc (time_diff now seg.tsecr).toInt now clk)
       else if seg.ack == s.snd_una then ackDuplicate s seg p bc now clk
       else processFin s seg p bc false clk) := rfl

theorem rttSample_acked {s s' : Sock} {ts : UInt32} {rtt : Int} (h : rttSample s ts rtt = .ok s') :
    (core s).Acked (core s') ∧ s'.sbuf = s.sbuf ∧ s'.snd_una = s.snd_una := by
  cases h
  split
  · /- `u` first: with a record update on top of `updateRtt s rtt` the unifier unfolds `updateRtt` once per field it
       compares, 10^7 heartbeats each -/
    generalize h : updateRtt s rtt = u
    have : (core s).Acked (core u) ∧ u.sbuf = s.sbuf ∧ u.snd_una = s.snd_una := by
      subst h; unfold updateRtt
      split <;> exact ⟨⟨rfl, rfl, rfl, rfl, rfl, rfl, rfl, rfl, rfl, rfl, .inr ⟨_, rfl⟩, .inl ⟨rfl, rfl⟩⟩, rfl, rfl⟩
    exact this
  · exact ⟨.refl _, rfl, rfl⟩

/-- how `processAck` ends once its acknowledgement stage has produced `s1` -/
def AckEnd (s1 : Sock) (seg : Segment) (p : Array UInt8) (bc : Bool) (clk : UInt32) (r : Bool × Sock) : Prop :=
  r = (false, s1) ∨ (∃ e, closedown s1 e .loc clk = .ok r.2 ∧ r.1 = false) ∨ ∃ fa, processFin s1 seg p bc fa clk = .ok r

section
variable {seg : Segment} {p : Array UInt8} {bc : Bool} {clk : UInt32} {r : Bool × Sock}

theorem ackEnd_fin {s s1 : Sock} {fa : Bool} (h : processFin s1 seg p bc fa clk = .ok r) (hs : SendRel False s s1) :
    ∃ s1, SendRel False s s1 ∧ AckEnd s1 seg p bc clk r :=
  ⟨s1, hs, .inr (.inr ⟨fa, h⟩)⟩

theorem fastRetransmit_cases {s : Sock} {tweak : Sock → Sock} {fa : Bool} {now : UInt32}
    (h : fastRetransmit s tweak seg p bc fa now clk = .ok r) (htw : ∀ x, core (tweak x) = core x) :
    ∃ s1, SendRel False s s1 ∧ AckEnd s1 seg p bc clk r := by
  obtain ⟨⟨st, s2⟩, ht, h⟩ := bind_ok h
  have hs : SendRel False s s2 := of_triple_pre (transmit_rel s s 0 now) (SendRel.refl _ s) _ ht
  rcases ite_ok h with ⟨_, h⟩ | ⟨_, h⟩
  · obtain ⟨s3, hc, h⟩ := bind_ok h
    cases h
    exact ⟨s2, hs, .inr (.inl ⟨st, hc, rfl⟩)⟩
  · refine ackEnd_fin h ?_
    show (core s).Sent False (core (tweak s2))
    rw [htw]; exact hs

theorem ackGrow_cases {s : Sock} {fa : Bool} {nAcked now : UInt32} (h : ackGrow s seg p bc fa nAcked now clk = .ok r) :
    ∃ s1, SendRel False s s1 ∧ AckEnd s1 seg p bc clk r := by
  unfold ackGrow at h
  rcases ite_ok h with ⟨_, h⟩ | ⟨_, h⟩
  · rcases ite_ok h with ⟨_, h⟩ | ⟨_, h⟩
    · exact ackEnd_fin h (.refl _ _)
    · exact fastRetransmit_cases h (fun _ => rfl)
  · rcases ite_ok h with ⟨_, h⟩ | ⟨_, h⟩
    · exact ackEnd_fin h (.refl _ _)
    · rcases ite_ok h with ⟨_, h⟩ | ⟨_, h⟩
      · cases h
      · exact ackEnd_fin h (.refl _ _)

theorem ackDuplicate_cases {s : Sock} {now : UInt32} (h : ackDuplicate s seg p bc now clk = .ok r) :
    ∃ s1, SendRel False s s1 ∧ AckEnd s1 seg p bc clk r := by
  obtain ⟨wnd, _, h⟩ := bind_ok h
  rcases ite_ok h with ⟨_, h⟩ | ⟨_, h⟩
  · exact ackEnd_fin h (.refl _ _)
  · rcases ite_ok h with ⟨_, h⟩ | ⟨_, h⟩
    · rcases ite_ok h with ⟨_, h⟩ | ⟨_, h⟩
      · rcases ite_ok h with ⟨_, h⟩ | ⟨_, h⟩
        · -- `hs` is about the socket with the new `snd_wnd` and `dup_acks`: same footprint
          obtain ⟨s1, hs, he⟩ := fastRetransmit_cases h (fun _ => rfl)
          exact ⟨s1, hs, he⟩
        · exact ackEnd_fin h (.refl _ _)
      · rcases ite_ok h with ⟨_, h⟩ | ⟨_, h⟩ <;> exact ackEnd_fin h (.refl _ _)
    · exact ackEnd_fin h (.refl _ _)

theorem ackValuable_cases {s : Sock} {rtt : Int} {now : UInt32} (h : ackValuable s seg p bc rtt now clk = .ok r) :
    ∃ s1, AckRel s s1 ∧ AckEnd s1 seg p bc clk r := by
  obtain ⟨sr, hr, h⟩ := bind_ok h
  have ⟨ha, hu⟩ := rttSample_acked hr
  obtain ⟨wnd, _, h⟩ := bind_ok h
  obtain ⟨sb, hc, h⟩ := bind_ok h
  obtain ⟨⟨sl, lg⟩, _, h⟩ := bind_ok h
  obtain ⟨s1, hs, he⟩ := ackGrow_cases h
  refine ⟨s1, ⟨_, ?_, hs⟩, he⟩
  exact ha.advance hu hc

theorem processAck_cases {s : Sock} {now : UInt32} (h : processAck s seg p bc now clk = .ok r) :
    ∃ s1, AckRel s s1 ∧ AckEnd s1 seg p bc clk r := by
  rw [processAck_eq] at h
  have c0 : core (ackStamp s seg) = core s := rfl
  generalize ackStamp s seg = s0 at h c0
  show ∃ s1, (∃ sm, (core s).Acked (core sm) ∧ SendRel False sm s1) ∧ AckEnd s1 seg p bc clk r
  rw [← c0]
  -- what does not reach `ackValuable` acknowledges nothing
  have plain : (∃ s1, SendRel False s0 s1 ∧ AckEnd s1 seg p bc clk r) → ∃ s1, AckRel s0 s1 ∧ AckEnd s1 seg p bc clk r :=
    fun ⟨s1, hs, he⟩ => ⟨s1, ⟨s0, .refl _, hs⟩, he⟩
  rcases ite_ok h with ⟨_, h⟩ | ⟨_, h⟩
  · cases h; exact plain ⟨_, .refl _ _, .inl rfl⟩
  · rcases ite_ok h with ⟨_, h⟩ | ⟨_, h⟩
    · rcases ite_ok h with ⟨_, h⟩ | ⟨_, h⟩
      · cases h; exact plain ⟨_, .refl _ _, .inl rfl⟩
      · exact ackValuable_cases h
    · rcases ite_ok h with ⟨_, h⟩ | ⟨_, h⟩
      · exact plain (ackDuplicate_cases h)
      · exact plain (ackEnd_fin h (.refl _ _))

end

end Nice.Proofs.PTcp
