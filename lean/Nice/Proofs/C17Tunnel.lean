/- C17: once connected, SOCKS5, pseudo-SSL and HTTP are one pass-through, handing up its stream whatever the cuts -/
import Nice.Proofs.C17Feed
namespace Nice.Props.C17
open Nice.Sock Nice.Drv

variable {σ : Type}

/-- socks5.c, pseudossl.c, http.c once connected: one read of up to 65536 bytes handed up unchanged -/
def passThrough (s : σ) (b : Base) : Res × σ × Base :=
  let ((ret, bytes), b) := b.read 65536
  if ret ≤ 0 then ({ ret := ret }, s, b) else ({ ret := ret, up := [{ data := bytes }] }, s, b)

def IsTunnel (m : Machine σ) (s : σ) : Prop :=
  (∀ b : Base, b.freed = false → m.recv s b = passThrough s b) ∧
  m.stop = (fun (r : Int) => decide (r < 0)) ∧ m.wake s = false

def IsTunnel.refines {m : Machine σ} {s : σ} (ht : IsTunnel m s) (buffered : σ → Nat) : Refines m buffered Bytes where
  run a x := a ++ x
  abs _ o := o.stream
  Ok x := x.1 = s ∧ Base.Healthy x.2.1
  μ x := x.2.1.pend.length
  run_append := by intros; simp
  push := fun s b o ch ⟨h1, h2⟩ => ⟨⟨h1, h2⟩, by simp only [feedFuel]; omega⟩
  call := by
    rintro ⟨s', b, o⟩ ⟨rfl, hb⟩
    have hw : m.wake s' = false := ht.2.2
    simp only [afterCall, callsAgain, ht.1 b hb.2.2, ht.2.1, passThrough, read_healthy b hb 65536 (by decide)]
    by_cases hp : b.pend = []
    · simp [hp, hb, hw, Obs.add, Obs.stream]
    · have := List.length_pos_iff.mpr hp
      have h1 : ¬ ((1 : Int) ≤ 0) := by decide
      simp only [hp, ↓reduceIte, h1, true_and, healthy_pend, hb, hw]
      refine ⟨by simp [Obs.add, Obs.stream], fun _ => by simp only [List.length_drop]; omega, fun h => ?_⟩
      simp at h; simp [h]

theorem tunnel_feedAll (m : Machine σ) (buffered : σ → Nat) (s : σ) (ht : IsTunnel m s) (b : Base)
    (hb : Base.Healthy b) (hp : b.pend = []) (chunks : List Bytes) :
    (feedAll m buffered s b chunks).2.2.stream = chunks.flatten ∧ (feedAll m buffered s b chunks).1 = s := by
  have h := (ht.refines buffered).feedAll chunks (s, b, {}) ⟨⟨rfl, hb⟩, by simp [IsTunnel.refines, hp]⟩
  exact ⟨by simpa [IsTunnel.refines, hp, Sock.feedAll, Obs.stream] using h.2, h.1.1.1⟩

theorem socks5_isTunnel (s : Nice.Socks5.St) (h : s.state = .connected) : IsTunnel socks5M s :=
  ⟨fun b hf => by simp only [socks5M, Nice.Socks5.recv, h, hf, Bool.false_eq_true, ↓reduceIte]; rfl, rfl, rfl⟩

theorem pssl_isTunnel (s : Nice.PseudoSsl.St) (h : s.handshaken = true) : IsTunnel psslM s :=
  ⟨fun b hf => by simp only [psslM, Nice.PseudoSsl.recv, h, hf, ↓reduceIte, Bool.not_false]; rfl, rfl, rfl⟩

theorem http_isTunnel (s : Nice.Http.St) (h : s.state = .connected) : IsTunnel httpM s :=
  ⟨fun b hf => by
    simp only [httpM, httpM', Nice.Http.recv, h, hf, Bool.false_eq_true, ↓reduceIte, beq_self_eq_true]; rfl, rfl, rfl⟩

end Nice.Props.C17
