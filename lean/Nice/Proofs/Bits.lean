/- Masking a natural number with a run of ones: the one bit-level fact the classification kernels of agent/address.c (C18)
   and the alignment kernels of stun/stunmessage.h (C05–C07) both come down to. -/
namespace Nice

/-- `x & (a run of w ones starting at bit lo)` are the bits `[lo, lo+w)` of `x`, in place -/
theorem and_field (x lo w : Nat) : x &&& (2 ^ w - 1) * 2 ^ lo = x / 2 ^ lo % 2 ^ w * 2 ^ lo := by
  apply Nat.eq_of_testBit_eq
  intro i
  simp only [Nat.testBit_and, Nat.testBit_mul_two_pow, Nat.testBit_two_pow_sub_one, Nat.testBit_mod_two_pow,
    Nat.testBit_div_two_pow]
  by_cases h : lo ≤ i
  · simp [h, Nat.sub_add_cancel h, Bool.and_comm]
  · simp [h]

end Nice
