/-
  The frame of the public operations; no invariant is mentioned.  `LocalRel`: the receive side of the footprint is left
  alone, the state makes a local transition and a shut-down socket stays shut down.  `SndRel`: the send side is left alone
  and what is appended to `out` was read from the send ring.  `QuietRel` is both, with the scale factors kept and `rx_rto`
  kept in its range: it holds of every operation that neither queues, delivers, reads nor resizes, and their functions
  are walked once, for it.  `SendRel` is an instance of `QuietRel`, `AckRel` of `LocalRel`.
  The rule of the region: a relation between footprints is followed along straight-line code by triples; a function is
  inverted (`ite_ok`, `bind_ok`) where the caller must know the branch taken; an invariant is carried along a relation by
  one congruence lemma, and walked itself only through the functions that change what it reads.
-/
import Nice.Proofs.PTcpCases
import Nice.Proofs.PTcpRun
namespace Nice.Proofs.PTcp
open Nice.PTcp Nice.Gen Std.Do
open Nice.Proofs.PTcpStream (pdPrep)

set_option mvcgen.warning false

/-- the state changes a local operation (anything but an incoming packet) can make -/
def LocalTr (a b : TcpState) : Prop :=
  b = a ∨ b = .closed ∨ (a = .listen ∧ b = .synSent) ∨
    ((a = .synReceived ∨ a = .established) ∧ b = .finWait1) ∨ (a = .closeWait ∧ b = .lastAck)

instance (a b : TcpState) : Decidable (LocalTr a b) := by unfold LocalTr; infer_instance

theorem LocalTr.trans {a b c : TcpState} (h1 : LocalTr a b) (h2 : LocalTr b c) : LocalTr a c := by
  rcases h1 with rfl | rfl | ⟨rfl, rfl⟩ | ⟨h, rfl⟩ | ⟨rfl, rfl⟩
  · exact h2
  · rcases h2 with rfl | rfl | ⟨h, _⟩ | ⟨h | h, _⟩ | ⟨h, _⟩ <;> first | exact Or.inr (Or.inl rfl) | cases h
  · rcases h2 with rfl | rfl | ⟨h, _⟩ | ⟨h | h, _⟩ | ⟨h, _⟩ <;>
      first | exact Or.inr (Or.inr (Or.inl ⟨rfl, rfl⟩)) | exact Or.inr (Or.inl rfl) | cases h
  · rcases h2 with rfl | rfl | ⟨h', _⟩ | ⟨h' | h', _⟩ | ⟨h', _⟩ <;>
      first | exact Or.inr (Or.inr (Or.inr (Or.inl ⟨h, rfl⟩))) | exact Or.inr (Or.inl rfl) | cases h'
  · rcases h2 with rfl | rfl | ⟨h, _⟩ | ⟨h | h, _⟩ | ⟨h, _⟩ <;>
      first | exact Or.inr (Or.inr (Or.inr (Or.inr ⟨rfl, rfl⟩))) | exact Or.inr (Or.inl rfl) | cases h

theorem LocalTr.ph {a b : TcpState} (h : LocalTr a b) (ha : a ≠ .listen ∧ a ≠ .synSent) : b ≠ .listen ∧ b ≠ .synSent := by
  rcases h with rfl | rfl | ⟨rfl, _⟩ | ⟨_, rfl⟩ | ⟨_, rfl⟩
  · exact ha
  · exact ⟨by decide, by decide⟩
  · exact absurd rfl ha.1
  · exact ⟨by decide, by decide⟩
  · exact ⟨by decide, by decide⟩

theorem LocalTr.sentFin {a b : TcpState} (h : LocalTr a b) (ha : hasSentFin a = true) : hasSentFin b = true := by
  rcases h with rfl | rfl | ⟨rfl, _⟩ | ⟨_, rfl⟩ | ⟨_, rfl⟩ <;> first | exact ha | rfl | cases ha

theorem LocalTr.listen {a b : TcpState} (h : LocalTr a b) (hb : b = .listen) : a = .listen := by
  rcases h with rfl | rfl | ⟨_, rfl⟩ | ⟨_, rfl⟩ | ⟨_, rfl⟩ <;> first | exact hb | cases hb

structure LocalC (c c' : Core) : Prop where
  rbuf : c'.rbuf = c.rbuf
  rcv_nxt : c'.rcv_nxt = c.rcv_nxt
  rcv_fin : c'.rcv_fin = c.rcv_fin
  rlist : c'.rlist = c.rlist
  support_fin_ack : c'.support_fin_ack = c.support_fin_ack
  shutdown : c.shutdown ≠ .none → c'.shutdown ≠ .none
  state : LocalTr c.state c'.state

/-- an `abbrev` for the reason `core` is one -/
abbrev LocalRel (s s' : Sock) : Prop := LocalC (core s) (core s')

theorem LocalRel.refl (s : Sock) : LocalRel s s := ⟨rfl, rfl, rfl, rfl, rfl, id, Or.inl rfl⟩

theorem LocalRel.trans {a b c : Sock} (h1 : LocalRel a b) (h2 : LocalRel b c) : LocalRel a c :=
  ⟨h2.rbuf.trans h1.rbuf, h2.rcv_nxt.trans h1.rcv_nxt, h2.rcv_fin.trans h1.rcv_fin, h2.rlist.trans h1.rlist,
    h2.support_fin_ack.trans h1.support_fin_ack, fun x => h2.shutdown (h1.shutdown x), h1.state.trans h2.state⟩

theorem LocalRel.emitIf {s : Sock} (c : Bool) (e : Event) : LocalRel s (emitIf c s e) :=
  ⟨rfl, rfl, rfl, rfl, rfl, id, Or.inl rfl⟩

/-- what is appended to `out` is a callback or a packet read from the ring at `seq - snd_una`; `fin` and `listen` are what
    the sender invariant needs of the state -/
structure SndC (c c' : Core) : Prop where
  sbuf : c'.sbuf = c.sbuf
  snd_una : c'.snd_una = c.snd_una
  fin : hasSentFin c.state = true → hasSentFin c'.state = true
  listen : c'.state = .listen → c.state = .listen
  out : ∀ e, e ∈ c'.out → e ∈ c.out ∨ SentEv c.sbuf c.snd_una e

abbrev SndRel (s s' : Sock) : Prop := SndC (core s) (core s')

theorem SndRel.refl (s : Sock) : SndRel s s := ⟨rfl, rfl, id, id, fun _ h => .inl h⟩

/-- the receive side of the footprint may differ -/
theorem SndRel.same {s s' : Sock} (e1 : s'.sbuf = s.sbuf) (e2 : s'.snd_una = s.snd_una) (e3 : s'.state = s.state)
    (e4 : s'.out = s.out) : SndRel s s' :=
  ⟨e1, e2, fun x => by show hasSentFin s'.state = true; rw [e3]; exact x,
    fun x => by show s.state = .listen; rw [← e3]; exact x, fun e (h : e ∈ s'.out) => .inl (by show e ∈ s.out; rw [← e4]; exact h)⟩

theorem SndRel.trans {a b c : Sock} (h1 : SndRel a b) (h2 : SndRel b c) : SndRel a c :=
  ⟨h2.sbuf.trans h1.sbuf, h2.snd_una.trans h1.snd_una, fun x => h2.fin (h1.fin x), fun x => h1.listen (h2.listen x),
    fun e he => (h2.out e he).elim (h1.out e) (fun x => .inr (by rw [← h1.sbuf, ← h1.snd_una]; exact x))⟩

theorem SndRel.state {s : Sock} (t : TcpState) (hf : hasSentFin s.state = true → hasSentFin t = true)
    (hl : t = .listen → s.state = .listen) : SndRel s { s with state := t } :=
  ⟨rfl, rfl, hf, hl, fun _ h => .inl h⟩

theorem SndRel.emitIf {s : Sock} (c : Bool) {e : Event} (he : SentEv s.sbuf s.snd_una e) : SndRel s (emitIf c s e) :=
  ⟨rfl, rfl, id, id, fun _ => mem_pushIf_of c _ he⟩

structure Core.Quiet (c c' : Core) : Prop extends LocalC c c' where
  sbuf : c'.sbuf = c.sbuf
  snd_una : c'.snd_una = c.snd_una
  out : ∀ e, e ∈ c'.out → e ∈ c.out ∨ SentEv c.sbuf c.snd_una e
  swnd_scale : c'.swnd_scale = c.swnd_scale
  rwnd_scale : c'.rwnd_scale = c.rwnd_scale
  rto : RtoOk c.rx_rto → RtoOk c'.rx_rto

abbrev QuietRel (s s' : Sock) : Prop := (core s).Quiet (core s')

theorem QuietRel.refl (s : Sock) : QuietRel s s := ⟨LocalRel.refl s, rfl, rfl, fun _ h => .inl h, rfl, rfl, id⟩

theorem QuietRel.snd {s s' : Sock} (h : QuietRel s s') : SndRel s s' :=
  ⟨h.sbuf, h.snd_una, h.state.sentFin, h.state.listen, h.out⟩

theorem QuietRel.trans {a b c : Sock} (h1 : QuietRel a b) (h2 : QuietRel b c) : QuietRel a c :=
  ⟨LocalRel.trans h1.toLocalC h2.toLocalC, h2.sbuf.trans h1.sbuf, h2.snd_una.trans h1.snd_una, (h1.snd.trans h2.snd).out,
    h2.swnd_scale.trans h1.swnd_scale, h2.rwnd_scale.trans h1.rwnd_scale, fun x => h2.rto (h1.rto x)⟩

theorem quiet_of_sent {cl : Prop} {s s' : Sock} (h : SendRel cl s s') : QuietRel s s' :=
  ⟨⟨h.rbuf, h.rcv_nxt, h.rcv_fin, h.rlist, h.support_fin_ack,
    fun x => h.shutdown.elim (fun e => e ▸ x) (fun e => e.2 ▸ (by decide)),
    h.state.elim Or.inl (fun e => Or.inr (Or.inl e.2))⟩, h.sbuf, h.snd_una, h.out, h.swnd_scale, h.rwnd_scale,
    fun x => h.rx_rto ▸ x⟩

theorem local_of_sent {cl : Prop} {s s' : Sock} (h : SendRel cl s s') : LocalRel s s' := (quiet_of_sent h).toLocalC

theorem snd_of_sent {cl : Prop} {s s' : Sock} (h : SendRel cl s s') : SndRel s s' := (quiet_of_sent h).snd

theorem local_of_acked {s s' : Sock} (h : AckRel s s') : LocalRel s s' ∧ s'.state = s.state := by
  obtain ⟨sm, ha, hs⟩ := h
  exact ⟨LocalRel.trans ⟨ha.rbuf, ha.rcv_nxt, ha.rcv_fin, ha.rlist, ha.support_fin_ack, fun x => ha.shutdown ▸ x,
    Or.inl ha.state⟩ (local_of_sent hs), (hs.state.elim id (fun e => e.1.elim)).trans ha.state⟩

theorem quiet_of_send {cl : Prop} {α : Type} {x : R α} {s : Sock} {g : α → Sock}
    (h : ⦃⌜SendRel cl s s⌝⦄ x ⦃⇓? a => ⌜SendRel cl s (g a)⌝⦄) (s0 : Sock) :
    ⦃⌜QuietRel s0 s⌝⦄ x ⦃⇓? a => ⌜QuietRel s0 (g a)⌝⦄ :=
  keeps_of (P := (QuietRel s0 ·)) h fun _ k hl => hl.trans (quiet_of_sent k)

theorem local_of_send {cl : Prop} {α : Type} {x : R α} {s : Sock} {g : α → Sock}
    (h : ⦃⌜SendRel cl s s⌝⦄ x ⦃⇓? a => ⌜SendRel cl s (g a)⌝⦄) (s0 : Sock) :
    ⦃⌜LocalRel s0 s⌝⦄ x ⦃⇓? a => ⌜LocalRel s0 (g a)⌝⦄ :=
  keeps_of (P := (LocalRel s0 ·)) h fun _ k hl => hl.trans (local_of_sent k)

section
variable (s0 : Sock)

theorem setStateClosed_quiet (s : Sock) (e : Err) :
    ⦃⌜QuietRel s0 s⌝⦄ setStateClosed s e ⦃⇓? s' => ⌜QuietRel s0 s'⌝⦄ :=
  to_triple fun hi s' h => by
    rw [setStateClosed_eq h]
    exact { hi with
      state := hi.state.trans (Or.inr (Or.inl rfl))
      out := fun x hx => (mem_pushIf_of (x := Event.closed e) _ (SentEv s0.sbuf s0.snd_una) trivial hx).elim (hi.out x) .inr }

theorem notifyMtu_quiet (s : Sock) (m : UInt16) : ⦃⌜QuietRel s0 s⌝⦄ notifyMtu s m ⦃⇓? s' => ⌜QuietRel s0 s'⌝⦄ := by
  have h := fun s => quiet_of_send (g := id) (adjustMTU_rel (cl := False) s s) s0
  mvcgen [notifyMtu, h]

theorem clockFinStates_quiet (s : Sock) (clk : UInt32) :
    ⦃⌜QuietRel s0 s⌝⦄ clockFinStates s clk ⦃⇓? r => ⌜QuietRel s0 r⌝⦄ := by
  have h1 := setStateClosed_quiet s0
  have h2 := fun s1 => quiet_of_send (g := id) (queueFinMessage_rel (cl := True) s1 s1) s0
  have h3 := fun s1 sf clk => quiet_of_send (g := id) (attemptSend_rel s1 s1 sf clk) s0
  mvcgen [clockFinStates, h1, h2, h3]

theorem clockRetransmit_quiet (s : Sock) (now clk : UInt32) :
    ⦃⌜QuietRel s0 s⌝⦄ clockRetransmit s now clk ⦃⇓? r => ⌜QuietRel s0 r.2⌝⦄ := by
  have h1 := fun s1 idx now => quiet_of_send (g := Prod.snd) (transmit_rel (cl := True) s1 s1 idx now) s0
  have h2 := fun s1 e src clk => quiet_of_send (g := id) (closedown_rel s1 s1 e src clk) s0
  mvcgen [clockRetransmit, h1, h2]
  have h := ‹QuietRel s0 _›
  refine { h with rto := fun x => backoff_range _ _ (h.rto x) ?_ }
  exact (Decidable.em _).elim (fun c => .inl (if_pos c)) fun c => .inr (if_neg c)

theorem clockProbe_quiet (s : Sock) (now clk : UInt32) :
    ⦃⌜QuietRel s0 s⌝⦄ clockProbe s now clk ⦃⇓? r => ⌜QuietRel s0 r.2⌝⦄ := by
  have h1 := fun s1 e src clk => quiet_of_send (g := id) (closedown_rel s1 s1 e src clk) s0
  have h2 := fun s1 seq fl now => quiet_of_send (g := Prod.snd) (packet0_rel (cl := True) s1 s1 seq fl now) s0
  mvcgen [clockProbe, h1, h2]
  have h := ‹QuietRel s0 _›
  exact { h with rto := fun x => backoff_range _ _ (h.rto x) (.inr rfl) }

theorem clockDelayedAck_quiet (s : Sock) (now : UInt32) :
    ⦃⌜QuietRel s0 s⌝⦄ clockDelayedAck s now ⦃⇓? r => ⌜QuietRel s0 r⌝⦄ := by
  have h := fun s1 seq fl now => quiet_of_send (g := Prod.snd) (packet0_rel (cl := True) s1 s1 seq fl now) s0
  mvcgen [clockDelayedAck, h]

/-- the four stages keep their own lemmas: walked as one function their branches multiply -/
theorem notifyClock_quiet (s : Sock) (clk : UInt32) :
    ⦃⌜QuietRel s0 s⌝⦄ notifyClock s clk ⦃⇓? r => ⌜QuietRel s0 r⌝⦄ := by
  have h1 := clockFinStates_quiet s0
  have h2 := clockRetransmit_quiet s0
  have h3 := clockProbe_quiet s0
  have h4 := clockDelayedAck_quiet s0
  mvcgen [notifyClock, h1, h2, h3, h4]

theorem getNextClock_quiet (s : Sock) (t : UInt64) (clk : UInt32) :
    ⦃⌜QuietRel s0 s⌝⦄ getNextClock s t clk ⦃⇓? r => ⌜QuietRel s0 r.2.2⌝⦄ := by
  have h := fun s1 e src clk => quiet_of_send (g := id) (closedown_rel s1 s1 e src clk) s0
  mvcgen [getNextClock, h]

theorem setState_quiet (s : Sock) (t : TcpState) :
    ⦃⌜QuietRel s0 s ∧ LocalTr s0.state t⌝⦄ setState s t ⦃⇓? s' => ⌜QuietRel s0 s'⌝⦄ :=
  to_triple fun hi s' h => by rw [setState_eq h]; exact { hi.1 with state := hi.2 }

theorem shutdown_quiet (s : Sock) (how : ShutdownHow) (clk : UInt32) :
    ⦃⌜QuietRel s0 s⌝⦄ shutdown s how clk ⦃⇓? r => ⌜QuietRel s0 r⌝⦄ := by
  have h1 := setStateClosed_quiet s0
  have h2 := fun s1 e src clk => quiet_of_send (g := id) (closedown_rel s1 s1 e src clk) s0
  have h3 := fun s1 => quiet_of_send (g := id) (queueFinMessage_rel (cl := True) s1 s1) s0
  have h4 := fun s1 sf clk => quiet_of_send (g := id) (attemptSend_rel s1 s1 sf clk) s0
  have h5 := setState_quiet s0
  mvcgen [shutdown, h1, h2, h3, h4, h5]
  case vc1 => -- without FIN-ACK support the call only sets the shutdown mode
    have h := ‹QuietRel s0 s›
    have hsd : s0.shutdown ≠ .none → (if s.shutdown = .none then Shutdown.graceful else s.shutdown) ≠ .none := fun x => by
      have : s.shutdown ≠ .none := h.shutdown x
      rw [if_neg this]; exact this
    exact { h with shutdown := hsd }
  -- the move to FIN-WAIT-1 / LAST-ACK is local from the state the call found, hence from `s0`'s
  all_goals
    have hst : s.state = _ := ‹_ = _›
    exact ⟨‹QuietRel s0 (id _)›, (‹QuietRel s0 s›).state.trans (by show LocalTr s.state _; rw [hst]; decide)⟩

theorem close_quiet (s : Sock) (f : Bool) (clk : UInt32) :
    ⦃⌜QuietRel s0 s⌝⦄ close s f clk ⦃⇓? r => ⌜QuietRel s0 r⌝⦄ := by
  have h1 := fun s1 e src clk => quiet_of_send (g := id) (closedown_rel s1 s1 e src clk) s0
  have h2 := shutdown_quiet s0
  mvcgen [close, h1, h2]

end

/-- the operations that neither queue, deliver, read nor resize -/
def QuietOp : Op → Prop
  | .setRcvBuf _ | .setSndBuf _ | .connect | .send _ | .recv _ | .packet _ => False
  | _ => True

theorem step_quiet {s s' : Sock} {clk : UInt32} {op : Op} (h : step s clk op = .ok s') (hq : QuietOp op) :
    QuietRel s s' := by
  cases op with
  | setRcvBuf v => exact hq.elim
  | setSndBuf v => exact hq.elim
  | connect => exact hq.elim
  | send d => exact hq.elim
  | recv k => exact hq.elim
  | packet p => exact hq.elim
  | setNoDelay b => cases h; exact QuietRel.refl s
  | setAckDelay v => cases h; exact QuietRel.refl s
  | setTime t => cases h; exact QuietRel.refl s
  | setWres w => cases h; exact QuietRel.refl s
  | clock => exact of_triple_pre (notifyClock_quiet s s clk) (QuietRel.refl s) s' h
  | nextClock t =>
    obtain ⟨⟨b, t', s1⟩, h1, h⟩ := bind_ok h
    cases h
    exact of_triple_pre (getNextClock_quiet s s t clk) (QuietRel.refl s) _ h1
  | shutdown hw => exact of_triple_pre (shutdown_quiet s s hw clk) (QuietRel.refl s) s' h
  | close f => exact of_triple_pre (close_quiet s s f clk) (QuietRel.refl s) s' h
  | mtu m => exact of_triple_pre (notifyMtu_quiet s s m) (QuietRel.refl s) s' h
  | availSendSpace => cases h; exact QuietRel.refl s

section
variable (s0 : Sock)

theorem setSndBuf_local (s : Sock) (v : UInt32) : ⦃⌜LocalRel s0 s⌝⦄ setSndBuf s v ⦃⇓? s' => ⌜LocalRel s0 s'⌝⦄ := by
  have h0 := fun (b : Fifo) k => triv_spec (b.setCapacity k)
  mvcgen [setSndBuf, resizeSendBuffer, h0]
  have h := ‹LocalRel s0 s›
  exact { h with }

theorem queue_local (s : Sock) (d : Array UInt8) (len : UInt32) (fl : UInt8) :
    ⦃⌜LocalRel s0 s⌝⦄ queue s d len fl ⦃⇓? r => ⌜LocalRel s0 r.2⌝⦄ :=
  to_triple fun hi r h => by
    obtain ⟨_, _, _, _, _, _, rfl⟩ := queue_eq h
    exact { hi with }

theorem queueConnectMessage_local (s : Sock) :
    ⦃⌜LocalRel s0 s⌝⦄ queueConnectMessage s ⦃⇓? s' => ⌜LocalRel s0 s'⌝⦄ := by
  have h := queue_local s0
  mvcgen [queueConnectMessage, h]

theorem setState_local (s : Sock) (t : TcpState) :
    ⦃⌜LocalRel s0 s ∧ LocalTr s0.state t⌝⦄ setState s t ⦃⇓? s' => ⌜LocalRel s0 s'⌝⦄ :=
  to_triple fun hi s' h => by rw [setState_eq h]; exact { hi.1 with state := hi.2 }

theorem connect_local (s : Sock) (clk : UInt32) :
    ⦃⌜LocalRel s0 s⌝⦄ connect s clk ⦃⇓? r => ⌜LocalRel s0 r.2⌝⦄ := by
  have h1 := setState_local s0
  have h2 := queueConnectMessage_local s0
  have h3 := fun s1 sf clk => local_of_send (g := id) (attemptSend_rel s1 s1 sf clk) s0
  mvcgen [connect, h1, h2, h3]
  have hst : s.state = .listen := Classical.not_not.mp ‹_›
  exact ⟨‹LocalRel s0 s›, (‹LocalRel s0 s›).state.trans (by show LocalTr s.state _; rw [hst]; decide)⟩

theorem send_local (s : Sock) (d : Array UInt8) (clk : UInt32) :
    ⦃⌜LocalRel s0 s⌝⦄ send s d clk ⦃⇓? r => ⌜LocalRel s0 r.2⌝⦄ := by
  have h1 := queue_local s0
  have h2 := fun s1 sf clk => local_of_send (g := id) (attemptSend_rel s1 s1 sf clk) s0
  mvcgen [send, h1, h2]

end

/-- the operations that neither read nor resize the receive ring, nor deliver a packet -/
def KeepsRcvOp : Op → Prop
  | .recv _ | .packet _ | .setRcvBuf _ => False
  | _ => True

theorem step_local {s s' : Sock} {clk : UInt32} {op : Op} (h : step s clk op = .ok s') (hq : KeepsRcvOp op) :
    LocalRel s s' := by
  cases op with
  | recv k => exact hq.elim
  | packet p => exact hq.elim
  | setRcvBuf v => exact hq.elim
  | setSndBuf v => exact of_triple_pre (setSndBuf_local s s v) (LocalRel.refl s) s' h
  | connect =>
    obtain ⟨r, h1, h⟩ := bind_ok h
    cases h
    exact of_triple_pre (connect_local s s clk) (LocalRel.refl s) r h1
  | send d =>
    obtain ⟨r, h1, h⟩ := bind_ok h
    cases h
    exact of_triple_pre (send_local s s d clk) (LocalRel.refl s) r h1
  | _ => exact (step_quiet h trivial).toLocalC

theorem recv_local {s : Sock} {len : Nat} {clk : UInt32} {ret : Int} {bytes : Array UInt8} {s' : Sock}
    (h : recv s len clk = .ok (ret, bytes, s')) :
    (bytes = #[] ∧ LocalRel s s') ∨
    ∃ bs rb, s.rbuf.read len = .ok (bs, rb) ∧ LocalRel { s with rbuf := rb } s' ∧ (bytes = bs ∨ bytes = #[] ∧ bs.size = 0) := by
  rcases recv_cases h with ⟨hb, rfl | rfl, _⟩ | ⟨bs, rb, hrd, ⟨hz, _, _, hb, rfl⟩ | ⟨_, hb, rfl | rfl | hs⟩⟩
  · exact Or.inl ⟨hb, LocalRel.refl _⟩
  · exact Or.inl ⟨hb, LocalRel.refl _⟩
  · exact Or.inr ⟨bs, rb, hrd, LocalRel.refl _, Or.inr ⟨hb, hz⟩⟩
  · exact Or.inr ⟨bs, rb, hrd, LocalRel.refl _, Or.inl hb⟩
  · exact Or.inr ⟨bs, rb, hrd, LocalRel.refl _, Or.inl hb⟩
  · have k := local_of_sent (attemptSend_sent hs)
    exact Or.inr ⟨bs, rb, hrd, k, Or.inl hb⟩

theorem resizeReceiveBuffer_snd {s s' : Sock} {v : UInt32} (h : resizeReceiveBuffer s v = .ok s') : SndRel s s' := by
  rcases resizeReceiveBuffer_eq h with rfl | ⟨rb, _, len, sc, wnd, _, rfl⟩
  · exact SndRel.refl _
  · exact SndRel.same rfl rfl rfl rfl

theorem recv_snd {s s' : Sock} {k : Nat} {clk : UInt32} {ret : Int} {bytes : Array UInt8}
    (h : recv s k clk = .ok (ret, bytes, s')) : SndRel s s' := by
  rcases recv_cases h with ⟨_, rfl | rfl, _⟩ | ⟨bs, rb, _, ⟨_, _, _, _, rfl⟩ | ⟨_, _, rfl | rfl | hs⟩⟩
  · exact SndRel.refl _
  · exact SndRel.refl _
  · exact SndRel.same rfl rfl rfl rfl
  · exact SndRel.same rfl rfl rfl rfl
  · exact SndRel.same rfl rfl rfl rfl
  · exact SndRel.trans (b := { s with rbuf := rb, rcv_wnd := UInt32.ofNat rb.getWriteRemaining })
      (SndRel.same rfl rfl rfl rfl) (snd_of_sent (attemptSend_sent hs))

theorem setRcvBuf_snd {s s' : Sock} {v : UInt32} (h : setRcvBuf s v = .ok s') : SndRel s s' := by
  unfold setRcvBuf at h
  rcases ite_ok h with ⟨_, h⟩ | ⟨_, h⟩
  · cases h; exact SndRel.refl _
  · exact resizeReceiveBuffer_snd h

theorem parseOptions_snd {s s' : Sock} {p : Array UInt8} {base len : Nat} (h : parseOptions s p base len = .ok s') :
    SndRel s s' := by
  obtain ⟨sc, fa, s1, sc', fa', _, _, hs1, rfl⟩ := parseOptions_eq h
  have k1 : SndRel s s1 := by
    rcases hs1 with rfl | hs1
    · exact SndRel.same rfl rfl rfl rfl
    · exact SndRel.trans (b := { s with swnd_scale := sc, support_fin_ack := fa }) (SndRel.same rfl rfl rfl rfl)
        (resizeReceiveBuffer_snd hs1)
  exact k1.trans (SndRel.same rfl rfl rfl rfl)

theorem setStateEstablished_snd {s s' : Sock} (hns : hasSentFin s.state = false)
    (h : setStateEstablished s = .ok s') : SndRel s s' := by
  obtain ⟨s2, h2, rfl⟩ := setStateEstablished_eq h
  exact ((SndRel.state .established (fun e => by rw [hns] at e; cases e) (fun e => by cases e)).trans
    (snd_of_sent (adjustMTU_sent h2))).trans (SndRel.emitIf true trivial)

theorem processData_snd {s : Sock} {seg : Segment} {p : Array UInt8} {rf : Bool} {clk : UInt32} {r : Bool × Sock}
    (h : processData s seg p rf clk = .ok r) : SndRel s r.2 := by
  obtain ⟨s1, sflags, bNew, s3, hst, has, rfl⟩ := processData_cases h
  obtain ⟨rb, nxt, wnd, rl, e1⟩ := storeStage_eq hst
  simp only at e1
  subst e1
  have k0 : SndRel s (pdPrep s) := SndRel.emitIf _ trivial
  have k1 : SndRel (pdPrep s)
      { pdPrep s with rbuf := rb, rcv_nxt := if rf = true then nxt + 1 else nxt, rcv_wnd := wnd, rlist := rl } :=
    SndRel.same rfl rfl rfl rfl
  have k3 := snd_of_sent (attemptSend_sent has)
  exact ((k0.trans k1).trans k3).trans (SndRel.emitIf _ trivial)

theorem processFin_snd {s : Sock} {seg : Segment} {p : Array UInt8} {bc fa : Bool} {clk : UInt32} {r : Bool × Sock}
    (h : processFin s seg p bc fa clk = .ok r) : SndRel s r.2 := by
  obtain ⟨s1, hs1, h⟩ := processFin_cases h
  have k1 : SndRel s s1 := by
    rcases hs1 with ⟨hst, _, h1⟩ | ⟨_, e⟩
    · exact setStateEstablished_snd (by rw [hst]; rfl) h1
    · rw [e]; exact SndRel.refl s
  have kb : SndRel s (recordFin s1 seg) := k1.trans (SndRel.same rfl rfl rfl rfl)
  rcases h with ⟨_, h⟩ | ⟨_, _, _, rfl⟩ | ⟨_, h⟩
  · exact k1.trans (processData_snd h)
  · exact kb
  · exact (kb.trans (SndRel.state _ (finNext_sentFin _ _) finNext_listen)).trans (processData_snd h)

/-- the operations that neither queue data nor deliver an acknowledgement -/
def KeepsSndOp : Op → Prop
  | .send _ | .packet _ | .connect | .setSndBuf _ => False
  | _ => True

theorem step_snd {s s' : Sock} {clk : UInt32} {op : Op} (h : step s clk op = .ok s') (hq : KeepsSndOp op) :
    SndRel s s' := by
  cases op with
  | send d => exact hq.elim
  | packet p => exact hq.elim
  | connect => exact hq.elim
  | setSndBuf v => exact hq.elim
  | recv k =>
    obtain ⟨⟨ret, bytes, s1⟩, h1, h⟩ := bind_ok h
    cases h
    exact recv_snd h1
  | setRcvBuf v => exact setRcvBuf_snd h
  | _ => exact (step_quiet h trivial).snd

end Nice.Proofs.PTcp
