/-
  The accessors and `stun_agent_validate` never fault (C05): on a `Built` buffer every lookup returns a value
  inside the message (`find_built_inside`), so the reads that follow stay inside; a packet the length
  validation accepted is `Built` up to its size (`Valid.built`).  One no-fault lemma per model function.
-/
import Nice.Proofs.StunFind
namespace Nice.Stun
open Nice.Gen Nice.Spec.Stun

/-- a packet the agent's length validation accepts as a whole (shorter than 64 KiB) -/
structure Valid (a : Option Cfg) (pkt : Bytes) : Prop where
  len_ok : validateLen pkt (!noAlign a) = .ok (.len pkt.size)
  small : pkt.size < 65536

theorem Valid.built {a : Option Cfg} {pkt : Bytes} (hv : Valid a pkt) :
    ∃ w : UInt16, w.toNat = pkt.size ∧ Built a pkt w :=
  ⟨_, UInt16.toNat_ofNat_of_lt' hv.small, built_of_wellFormed (validateLen_iff_wellFormed.mp hv.len_ok) hv.small⟩

theorem rd_ok' {b : Bytes} {i : Nat} (h : i < b.size) : ∃ v, rd b i = .ok v := ⟨_, rd_eq h⟩

section accessors
variable {a : Option Cfg} {pkt : Bytes} {w : UInt16} (hB : Built a pkt w) (t : UInt16)
include hB

theorem hasAttribute_ok : ∃ x, hasAttribute a pkt t = .ok x := by
  obtain ⟨r, hf, _⟩ := find_built_inside a pkt w t hB
  unfold hasAttribute; rw [hf]; exact ⟨_, rfl⟩

theorem findFlag_ok : ∃ x, findFlag a pkt t = .ok x := by
  obtain ⟨r, hf, _⟩ := find_built_inside a pkt w t hB
  unfold findFlag; rw [hf]
  rcases r with _ | ⟨off, len⟩ <;> exact ⟨_, rfl⟩

theorem find32_ok : ∃ x, find32 a pkt t = .ok x := by
  obtain ⟨r, hf, hrd⟩ := find_built_read hB t
  unfold find32; rw [hf]
  rcases r with _ | ⟨off, len⟩
  · exact ⟨_, rfl⟩
  · have hv := hrd off len rfl
    simp only
    split
    · next h4 => rw [eq_of_beq h4] at hv; rw [show rdBytes pkt off 4 = _ from hv]; exact ⟨_, rfl⟩
    · exact ⟨_, rfl⟩

theorem find64_ok : ∃ x, find64 a pkt t = .ok x := by
  obtain ⟨r, hf, hrd⟩ := find_built_read hB t
  unfold find64; rw [hf]
  rcases r with _ | ⟨off, len⟩
  · exact ⟨_, rfl⟩
  · have hv := hrd off len rfl
    simp only
    split
    · next h8 => rw [eq_of_beq h8] at hv; rw [show rdBytes pkt off 8 = _ from hv]; exact ⟨_, rfl⟩
    · exact ⟨_, rfl⟩

theorem findString_ok (n : Nat) : ∃ x, findString a pkt t n = .ok x := by
  obtain ⟨r, hf, hrd⟩ := find_built_read hB t
  unfold findString; rw [hf]
  rcases r with _ | ⟨off, len⟩
  · exact ⟨_, rfl⟩
  · simp only
    split
    · exact ⟨_, rfl⟩
    · rw [hrd off len rfl]; exact ⟨_, rfl⟩

theorem findAddr_ok (n : Nat) : ∃ x, findAddr a pkt t n = .ok x := by
  obtain ⟨r, hf, hin⟩ := find_built_inside a pkt w t hB
  have hle := hB.le_size
  unfold findAddr; rw [hf]
  rcases r with _ | ⟨off, len⟩
  · exact ⟨_, rfl⟩
  · have hle := (hin off len rfl).2
    simp only
    by_cases h4 : len < 4
    · rw [if_pos h4]; exact ⟨_, rfl⟩
    · have : 4 ≤ len.toNat := Nat.le_of_not_lt (by rwa [UInt16.lt_iff_toNat_lt] at h4)
      rw [if_neg h4, rd_eq (by omega)]
      simp only
      -- in each family the two reads happen only when `len` is exactly that family's size
      have inner : ∀ (k : Nat) (L : UInt16) (c : Bool) (g : Bytes → Bytes → Ret × Option SockAddr × Nat)
          (x : Ret × Option SockAddr × Nat), L.toNat = 4 + k →
          ∃ y, (if (c || len != L) = true then (.ok x : M _) else
            match rdBytes pkt (off + 2) 2, rdBytes pkt (off + 4) k with
            | .ok p, .ok ip => .ok (g p ip)
            | .error e, _ => .error e
            | _, .error e => .error e) = .ok y := by
        intro k L c g x hL
        split
        · exact ⟨_, rfl⟩
        · next hc =>
          have : len = L := by
            have := (Bool.or_eq_false_iff.mp (Bool.not_eq_true _ ▸ hc)).2
            simpa using this
          subst this
          rw [rdBytes_eq (by omega), rdBytes_eq (by omega)]
          exact ⟨_, rfl⟩
      by_cases f1 : (pkt.getD (off + 1) 0 == 1) = true
      · rw [if_pos f1]; exact inner 4 8 _ _ _ rfl
      · rw [if_neg f1]
        by_cases f2 : (pkt.getD (off + 1) 0 == 2) = true
        · rw [if_pos f2]; exact inner 16 20 _ _ _ rfl
        · rw [if_neg f2]; exact ⟨_, rfl⟩

omit t in
theorem findError_ok : ∃ x, findError a pkt = .ok x := by
  obtain ⟨r, hf, hin⟩ := find_built_inside a pkt w (UInt16.ofNat STUN_ATTRIBUTE_ERROR_CODE) hB
  have hle := hB.le_size
  unfold findError; rw [hf]
  rcases r with _ | ⟨off, len⟩
  · exact ⟨_, rfl⟩
  · have hle := (hin off len rfl).2
    simp only
    split
    · exact ⟨_, rfl⟩
    · next h4 =>
      have : 4 ≤ len.toNat := Nat.le_of_not_lt (by rwa [UInt16.lt_iff_toNat_lt] at h4)
      rw [rd_eq (by omega), rd_eq (by omega)]
      simp only
      split <;> exact ⟨_, rfl⟩

end accessors

theorem findUnknownsLoop_walk (ag : Agent) {b : Bytes} {L off : Nat} {as : List Attr} (max : Nat)
    (hL : L ≤ b.size) (h : Walk b (!noAlign (some ag.cfg)) L off as) :
    ∀ acc, ∃ r, findUnknownsLoop ag b L max off acc = .ok r := by
  induction h with
  | nil => intro acc; rw [findUnknownsLoop]; simp
  | @cons off as hle hw ih =>
    intro acc
    rw [findUnknownsLoop]
    split
    · rw [getw_eq (by simp [STUN_ATTRIBUTE_TYPE_LEN]; omega), getw_eq (by omega)]
      simp only [STUN_ATTRIBUTE_TYPE_LEN, STUN_ATTRIBUTE_VALUE_POS, getwN_ofNat]
      have := step_eq (ag.cfg.has STUN_AGENT_USAGE_NO_ALIGNED_ATTRIBUTES) _ (getwN_lt b (off + 2))
      rw [this]
      exact ih _
    · exact ⟨_, rfl⟩

theorem findUnknowns_ok (ag : Agent) (pkt : Bytes) (max : Nat) {w : UInt16} (hB : Built (some ag.cfg) pkt w) :
    ∃ r, findUnknowns ag pkt max = .ok r := by
  obtain ⟨as, hw⟩ := hB.walk
  unfold findUnknowns
  rw [hB.len_ok]
  exact findUnknownsLoop_walk ag max hB.le_size hw _

theorem readHdr_ok (pkt : Bytes) (h : 20 ≤ pkt.size) : ∃ hd, readHdr pkt = .ok hd := by
  obtain ⟨⟨_, hc⟩, ⟨_, hm⟩, ⟨_, hid⟩, ⟨_, hck⟩⟩ := hdr_reads_ok pkt h
  unfold readHdr
  rw [hck, hc, hm, hid]
  exact ⟨_, rfl⟩

/-- `stun_fingerprint (msg, len, …)` reads bytes 0-1 and 4 .. len-8 -/
theorem fingerprint_ok {b : Bytes} {len : Nat} (typo : Bool) (h12 : 12 ≤ len) (hle : len ≤ b.size) :
    ∃ v, fingerprint b len typo = .ok v := by
  unfold fingerprint fprInput
  rw [if_neg (by omega), rdBytes_eq (by omega), rdBytes_eq (by omega)]
  exact ⟨_, rfl⟩

/-- `stun_sha1`: `assert (len >= 44)` holds and the reads (bytes 0-1, 4 .. len-24) stay inside -/
theorem stunSha1_spec (H : Hashes) {b : Bytes} {len : Nat} (ml : UInt16) (key : Bytes) (pad : Bool)
    (h44 : 44 ≤ len) (hle : len - 24 ≤ b.size) :
    ∃ text, macInput b len ml pad = .ok text ∧ stunSha1 H b len ml key pad = .ok (H.hmac key text) := by
  unfold stunSha1 macInput
  rw [if_neg (by omega), rdBytes_eq (by omega), rdBytes_eq (by omega)]
  exact ⟨_, rfl, rfl⟩

theorem checkFingerprint_ok (ag : Agent) (pkt : Bytes) {w : UInt16} (hB : Built (some ag.cfg) pkt w) :
    ∃ r, checkFingerprint ag pkt = .ok r := by
  obtain ⟨r32, h32⟩ := find32_ok hB tFPR
  unfold checkFingerprint
  simp only
  rw [h32]
  obtain ⟨ret, v⟩ := r32
  cases ret with
  | success =>
    simp only
    have h20 := hB.ge20
    rw [hB.len_ok]
    simp only
    obtain ⟨c1, hc1⟩ := fingerprint_ok (b := pkt) false (show 12 ≤ w.toNat by omega) hB.le_size
    obtain ⟨c2, hc2⟩ := fingerprint_ok (b := pkt) true (show 12 ≤ w.toNat by omega) hB.le_size
    rw [hc1]
    simp only
    split
    · split
      · obtain ⟨rm, hm, _⟩ := find_built_inside (some ag.cfg) pkt w (UInt16.ofNat STUN_ATTRIBUTE_MS_IMPLEMENTATION_VERSION) hB
        rw [hm]
        cases rm with
        | none => simp only; rw [hc2]; exact ⟨_, rfl⟩
        | some x => exact ⟨_, rfl⟩
      · exact ⟨_, rfl⟩
    · exact ⟨_, rfl⟩
  | notFound | invalid | noSpace | unsupported => exact ⟨_, rfl⟩

theorem frameCheck_spec (ag : Agent) (buffer : Bytes) (hs : buffer.size < 65536) :
    ∃ r, frameCheck ag buffer = .ok r ∧ ∀ h, r = .inr h → Valid (some ag.cfg) buffer := by
  unfold frameCheck
  simp only
  obtain ⟨rv, hrv⟩ : ∃ rv, validateLen buffer (!ag.cfg.has STUN_AGENT_USAGE_NO_ALIGNED_ATTRIBUTES) = .ok rv :=
    ⟨_, validateLen_eq _ _⟩
  rw [hrv]
  cases rv with
  | invalid => exact ⟨_, rfl, fun h hh => by cases hh⟩
  | incomplete => exact ⟨_, rfl, fun h hh => by cases hh⟩
  | len n =>
    simp only
    by_cases hn : n = buffer.size
    · subst hn
      have hv : Valid (some ag.cfg) buffer := ⟨hrv, hs⟩
      obtain ⟨w, hw, hB⟩ := hv.built
      obtain ⟨hd, hhd⟩ := readHdr_ok buffer (hw ▸ hB.ge20)
      rw [if_neg (by simp), hhd]
      simp only
      split
      · exact ⟨_, rfl, fun h hh => by cases hh⟩
      · split
        · obtain ⟨rc, hrc⟩ := checkFingerprint_ok ag buffer hB
          rw [hrc]
          cases rc
          · exact ⟨_, rfl, fun h hh => by cases hh⟩
          · exact ⟨_, rfl, fun _ _ => hv⟩
        · exact ⟨_, rfl, fun _ _ => hv⟩
    · rw [if_pos (by simpa using hn)]
      exact ⟨_, rfl, fun h hh => by cases hh⟩

theorem readFacts_ok (c : Cfg) (pkt : Bytes) {w : UInt16} (hB : Built (some c) pkt w) :
    ∃ f, readFacts (some c) pkt = .ok f := by
  unfold readFacts
  obtain ⟨re, hre⟩ := findError_ok hB
  obtain ⟨r1, h1⟩ := hasAttribute_ok hB tUSERNAME
  obtain ⟨r2, h2⟩ := hasAttribute_ok hB tMI
  obtain ⟨r3, h3⟩ := hasAttribute_ok hB tNONCE
  obtain ⟨r4, h4⟩ := hasAttribute_ok hB tREALM
  rw [hre, h1, h2, h3, h4]
  exact ⟨_, rfl⟩

theorem callValidater_ok (c : Cfg) (pkt : Bytes) (v : Validater) (f : Facts) (key0 : Option Bytes) (ic : Bool)
    {w : UInt16} (hB : Built (some c) pkt w) : ∃ r, callValidater c pkt v f key0 ic = .ok r := by
  unfold callValidater
  split
  · obtain ⟨r, hf, hrd⟩ := find_built_read hB tUSERNAME
    rw [hf]
    simp only
    cases r with
    | none =>
      simp only
      cases v with
      | none => exact ⟨_, rfl⟩
      | some g => simp only; cases g #[] <;> exact ⟨_, rfl⟩
    | some x =>
      obtain ⟨off, len⟩ := x
      simp only
      rw [hrd off len rfl]
      simp only
      cases v with
      | none => exact ⟨_, rfl⟩
      | some g => simp only; cases g (pkt.extract off (off + len.toNat)) <;> exact ⟨_, rfl⟩
  · exact ⟨_, rfl⟩

theorem longTermKey_ok (H : Hashes) (c : Cfg) (pkt k : Bytes) (lv : Bool) (lk : Bytes) {w : UInt16}
    (hB : Built (some c) pkt w) : ∃ r, longTermKey H c pkt k lv lk = .ok r := by
  unfold longTermKey
  split
  · exact ⟨_, rfl⟩
  · obtain ⟨r1, hf1, hrd1⟩ := find_built_read hB tREALM
    obtain ⟨r2, hf2, hrd2⟩ := find_built_read hB tUSERNAME
    rw [hf1, hf2]
    rcases r1 with _ | ⟨ro, rl⟩ <;> rcases r2 with _ | ⟨uo, ul⟩ <;> try exact ⟨_, rfl⟩
    simp only
    rw [hrd1 ro rl rfl, hrd2 uo ul rfl]
    exact ⟨_, rfl⟩

theorem miCheckKey_ok (H : Hashes) (c : Cfg) (pkt : Bytes) (h : Hdr) (f : Facts) (k : Bytes) (lv : Bool)
    (lk : Bytes) {w : UInt16} (hB : Built (some c) pkt w) : ∃ r, miCheckKey H c pkt h f k lv lk = .ok r := by
  unfold miCheckKey
  obtain ⟨r, hf, hin⟩ := find_built_inside (some c) pkt w tMI hB
  have := hB.le_size
  rw [hf]
  rcases r with _ | ⟨hoff, hlen⟩
  · simp only; split <;> exact ⟨_, rfl⟩
  · obtain ⟨h1, h2⟩ := hin hoff hlen rfl
    simp only
    by_cases h20 : hlen = 20
    · subst h20
      rw [show (20 : UInt16).toNat = 20 from rfl] at h2
      obtain ⟨ml, hml⟩ : ∃ ml, macLenOf c pkt hoff = .ok ml := by
        unfold macLenOf
        split
        · rw [hB.len_ok]; exact ⟨_, rfl⟩
        · exact ⟨_, rfl⟩
      rw [if_neg (by simp), hml]
      simp only
      -- both credential modes end in `stun_sha1` over the first `hoff + 20 ≥ 44` bytes and a read of 20
      have cmp : ∀ (key : Bytes) (x y : Bool × MsgInfo), ∃ r,
          (match stunSha1 H pkt (hoff + 20) ml key (macPadOf c), rdBytes pkt hoff 20 with
            | .ok sha, .ok hash => if sha != hash then (.ok x : M (Bool × MsgInfo)) else .ok y
            | .error e, _ => .error e
            | _, .error e => .error e) = .ok r := by
        intro key x y
        obtain ⟨_, _, hsha⟩ := stunSha1_spec H (b := pkt) ml key (macPadOf c) (show 44 ≤ hoff + 20 by omega) (by omega)
        rw [hsha, rdBytes_eq (by omega)]
        simp only
        split <;> exact ⟨_, rfl⟩
      split
      · obtain ⟨lt, hlt⟩ := longTermKey_ok H c pkt k lv lk hB
        rw [hlt]
        rcases lt with _ | md5
        · exact ⟨_, rfl⟩
        · exact cmp md5 _ _
      · exact cmp k _ _
    · rw [if_pos (by simpa using h20)]
      exact ⟨_, rfl⟩

theorem miCheck_ok (H : Hashes) (c : Cfg) (pkt : Bytes) (h : Hdr) (f : Facts) (key : Option Bytes) (ic lv : Bool)
    (lk : Bytes) {w : UInt16} (hB : Built (some c) pkt w) : ∃ r, miCheck H c pkt h f key ic lv lk = .ok r := by
  unfold miCheck
  rcases key with _ | k
  · exact ⟨_, rfl⟩
  · simp only
    split
    · exact miCheckKey_ok H c pkt h f k lv lk hB
    · exact ⟨_, rfl⟩

theorem validateTail_ok (ag : Agent) (pkt : Bytes) (h : Hdr) (f : Facts) (si : Option Nat) (info : MsgInfo)
    (u : Nat) {w : UInt16} (hB : Built (some ag.cfg) pkt w) : ∃ r, validateTail ag pkt h f si info u = .ok r := by
  obtain ⟨r32, h32⟩ := find32_ok hB (UInt16.ofNat STUN_ATTRIBUTE_MS_IMPLEMENTATION_VERSION)
  obtain ⟨unk, hunk⟩ := findUnknowns_ok ag pkt 1 hB
  unfold validateTail
  simp only [h32, hunk]
  repeat' split
  all_goals exact ⟨_, rfl⟩

theorem validate_ok (H : Hashes) (ag : Agent) (buffer : Bytes) (v : Validater) (u : Nat)
    (hs : buffer.size < 65536) : ∃ r, validate H ag buffer v u = .ok r := by
  unfold validate
  simp only
  obtain ⟨r, hr, hval⟩ := frameCheck_spec ag buffer hs
  rw [hr]
  cases r with
  | inl st => exact ⟨_, rfl⟩
  | inr h =>
    obtain ⟨w, _, hB⟩ := (hval h rfl).built
    simp only
    cases matchResponse ag h with
    | inl st => exact ⟨_, rfl⟩
    | inr si =>
      simp only
      obtain ⟨f, hf⟩ := readFacts_ok ag.cfg buffer hB
      rw [hf]
      simp only
      split
      · exact ⟨_, rfl⟩
      · obtain ⟨kr, hkr⟩ := callValidater_ok ag.cfg buffer v f (slotInfo ag si).1 (ignoreCredOf ag.cfg h f) hB
        rw [hkr]
        cases kr with
        | none => exact ⟨_, rfl⟩
        | some key =>
          simp only
          obtain ⟨mr, hmr⟩ := miCheck_ok H ag.cfg buffer h f key (ignoreCredOf ag.cfg h f)
            (slotInfo ag si).2.1 (slotInfo ag si).2.2 hB
          rw [hmr]
          obtain ⟨ok, info⟩ := mr
          cases ok
          · exact ⟨_, rfl⟩
          · exact validateTail_ok ag buffer h f si info u hB

end Nice.Stun
