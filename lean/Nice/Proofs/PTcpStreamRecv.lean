/-
  The receive side after the handshake: `notify_packet` keeps `RInv` for every honest packet, `recv` returns the next bytes
  of the ghost stream, every other operation leaves the receive side alone (`step_local`); then the invariant along
  ghost-instrumented histories (`runG`), and what it says at end of stream.
-/
import Nice.Proofs.PTcpStreamData
namespace Nice.Proofs.PTcpStream
open Nice.PTcp Nice.Gen Nice.Proofs.PTcp Std.Do

theorem finNext_fin4 {a : TcpState} (fa : Bool) (h : Fin4 (finNext a false fa)) : Fin4 a := by
  cases a <;> cases fa <;> first | exact h | trivial | cases h

section
variable {W : List UInt8} {D n : Nat}

theorem setStateEstablished_rinv (s s' : Sock) (hc : RCore W D n s) (h : setStateEstablished s = .ok s') :
    RInv W D n s' := by
  obtain ⟨s2, h2, rfl⟩ := setStateEstablished_eq h
  have k1 : RInv W D n { s with state := .established } :=
    ⟨hc.congr rfl, ⟨(fun e => by cases e), (fun e => by cases e)⟩, fun hF => False.elim hF,
      Or.inl rfl⟩
  exact k1.local ((local_of_sent (adjustMTU_sent h2)).trans (.emitIf true _))

theorem recordFin_finp {s : Sock} {seg : Segment} {p : Array UInt8} (hseg : SegOk W D seg p)
    (h : s.rcv_fin = 0 ∨ s.rcv_fin.toNat = D + W.length) :
    (recordFin s seg).rcv_fin = 0 ∨ (recordFin s seg).rcv_fin.toNat = D + W.length := by
  simp only [recordFin]
  split
  · rename_i hf
    exact Or.inr (hseg.fin (by simpa using hf))
  · exact h

/-- the FIN state machine: a FIN-received state is entered only by the segment that completes the stream -/
theorem processFin_rinv (hB : D + W.length + 2 < 2 ^ 31) (s : Sock) (seg : Segment) (p : Array UInt8) (bc fa : Bool)
    (clk : UInt32) (r : Bool × Sock) (hi : RInv W D n s) (hseg : SegOk W D seg p)
    (h : processFin s seg p bc fa clk = .ok r) : RInv W D n r.2 := by
  obtain ⟨s1, hs1, h⟩ := processFin_cases h
  have hi1 : RInv W D n s1 := by
    rcases hs1 with ⟨_, _, h1⟩ | ⟨_, rfl⟩
    · exact setStateEstablished_rinv s s1 hi.toS.core h1
    · exact hi
  have hiS := hi1.toS
  have hc := hiS.core
  have hcb : RCore W D n (recordFin s1 seg) := ⟨hc.fok, hc.pre, hc.com, hc.sync, recordFin_finp hseg hc.finp⟩
  rcases h with ⟨_, h⟩ | ⟨hfa, _, _, rfl⟩ | ⟨hfa, h⟩
  · exact processData_rinv hB s1 seg p false clk r hiS.core hiS.ph hseg (fun _ hF => hiS.fin4 hF) (fun e => by cases e) h
  · exact ⟨hcb, hiS.ph, fun hF => ⟨hfa, (hiS.fin4 hF).2⟩, Or.inl rfl⟩
  · refine processData_rinv hB { recordFin s1 seg with state := finNext s1.state (recvFin (recordFin s1 seg) seg) fa }
      seg p _ clk r (hcb.congr rfl) (finNext_ph _ _ hiS.ph) hseg (fun e hF => ?_)
      (fun e => ?_) h
    · have hF' : Fin4 (finNext s1.state (recvFin (recordFin s1 seg) seg) fa) := hF
      rw [e] at hF'
      exact ⟨hfa, (hiS.fin4 (finNext_fin4 fa hF')).2⟩
    · have ⟨a, b, c, d⟩ := recvFin_unpack _ _ e
      exact ⟨a, b, c, d, hfa⟩

theorem processAck_rinv (hB : D + W.length + 2 < 2 ^ 31) (seg : Segment) (p : Array UInt8) (hseg : SegOk W D seg p)
    (s : Sock) (bc : Bool) (now clk : UInt32) (r : Bool × Sock) (hi : RInv W D n s)
    (h : processAck s seg p bc now clk = .ok r) : RInv W D n r.2 := by
  obtain ⟨s1, hrel, hend⟩ := processAck_cases h
  have h1 := hi.local (local_of_acked hrel).1
  rcases hend with rfl | ⟨e, hc, _⟩ | ⟨fa, hf⟩
  · exact h1
  · exact h1.local (local_of_sent (closedown_sent hc))
  · exact processFin_rinv hB s1 seg p bc fa clk r h1 hseg hf

end

/-- **`PktOk W D p`**: the packet `p`, as `parse` decodes it, is a segment the honest peer can emit (`SegOk`) -/
def PktOk (W : List UInt8) (D : Nat) (p : Array UInt8) : Prop := ∀ seg, hdrOf p = .ok seg → SegOk W D seg p

section
variable (W : List UInt8) (D n : Nat)

theorem notifyPacket_rinv (hB : D + W.length + 2 < 2 ^ 31) (p : Array UInt8) (hp : PktOk W D p) (s : Sock)
    (clk : UInt32) (r : Bool × Sock) (hi : RInv W D n s) (h : notifyPacket s p clk = .ok r) : RInv W D n r.2 := by
  rcases notifyPacket_cases h with ⟨e, rfl⟩ | rfl | ⟨seg, hs, h⟩
  · exact hi.local (LocalRel.refl s)
  · exact hi
  · have hseg := hp seg hs
    have hi0 : RInv W D n (arrived s clk) := hi.local (LocalRel.refl s)
    rcases processBody_cases h with ⟨e, src, s1, h1, rfl⟩ | rfl | ⟨_, _, s2, h2, h3⟩ | ⟨_, _, h3⟩
    · exact hi0.local (local_of_sent (closedown_sent h1))
    · exact hi0
    · rw [hsStep_id seg p hi0.toS.ph.1 hi0.toS.ph.2] at h2
      cases h2
      exact processAck_rinv hB seg p hseg _ _ _ clk r hi0 h3
    · exact processAck_rinv hB seg p hseg _ _ _ clk r hi0 h3

theorem setRcvBuf_rinv (s : Sock) (v : UInt32) (r : Sock) (hi : RInv W D n s) (h : setRcvBuf s v = .ok r) :
    RInv W D n r := by
  unfold setRcvBuf at h
  rw [if_pos hi.toS.ph.1] at h
  cases h; exact hi

end

section
variable (W : List UInt8) (D n : Nat) (st0 : TcpState)

theorem queueConnectMessage_rspec (s : Sock) :
    ⦃⌜RInvS W D n st0 s⌝⦄ queueConnectMessage s ⦃⇓? s' => ⌜RInvS W D n st0 s'⌝⦄ :=
  to_triple fun hi s' h => by
    obtain ⟨w, sl, sb, rfl⟩ := queueConnectMessage_eq h
    exact ⟨hi.core.congr rfl, hi.ph, hi.fin4, hi.stk⟩

end

theorem take_append_next (W : List UInt8) (n : Nat) (b : Array UInt8) (hle : n + b.size ≤ W.length)
    (hb : ∀ j, j < b.size → b[j]?.getD 0 = W.getD (n + j) 0) : W.take n ++ b.toList = W.take (n + b.size) := by
  rw [List.take_add]
  congr 1
  apply List.ext_getElem
  · rw [List.length_take, List.length_drop, Array.length_toList]; omega
  · intro j h1 h2
    have hj : j < b.size := by rwa [Array.length_toList] at h1
    have := hb j hj
    rw [List.getD_eq_getElem?_getD, List.getElem?_eq_getElem (by omega), Array.getElem?_eq_getElem hj] at this
    simp only [Option.getD_some] at this
    rw [List.getElem_take, List.getElem_drop, Array.getElem_toList]
    exact this

theorem RInv.le {W : List UInt8} {D n : Nat} {s : Sock} (h : RInv W D n s) : n ≤ W.length :=
  Nat.le_trans (Nat.le_add_right n _) h.toS.core.pre

theorem RInv.keep {W : List UInt8} {D n : Nat} {s : Sock} (h : RInv W D n s) :
    ∃ n', n ≤ n' ∧ n' ≤ W.length ∧ W.take n ++ [] = W.take n' ∧ RInv W D n' s :=
  ⟨n, Nat.le_refl _, h.le, List.append_nil _, h⟩

theorem agree_read {W : List UInt8} {D n : Nat} {rb rb' : Fifo} {k q : Nat} (hsz : rb'.buf.size = rb.buf.size)
    (hb : ∀ i, byteAt rb' i = byteAt rb (k + i)) (hq : D + n + k ≤ q) (h : Agree W D n rb q) :
    Agree W D (n + k) rb' q :=
  ⟨by rw [hsz]; have := h.1; omega, by rw [hb, ← h.2]; exact congrArg (byteAt rb) (by omega)⟩

section
variable (W : List UInt8) (D n : Nat)

theorem read_rcore (s : Sock) (len : Nat) (bytes : Array UInt8) (rb : Fifo) (hc : RCore W D n s)
    (h : s.rbuf.read len = .ok (bytes, rb)) :
    RCore W D (n + bytes.size) { s with rbuf := rb } ∧ n + bytes.size ≤ W.length ∧
      (∀ j, j < bytes.size → bytes[j]?.getD 0 = W.getD (n + j) 0) ∧ bytes.size = min len s.rbuf.data := by
  have ⟨hs, hg, hd, hb⟩ := fifo_read_takes hc.fok h
  have ⟨hf, hbuf, _⟩ := read_ok hc.fok h
  have hpre := hc.pre
  have hsz : rb.buf.size = s.rbuf.buf.size := by rw [hbuf]
  refine ⟨⟨hf, ?_, fun i (hi : i < rb.data) => ?_, hc.sync.imp_right fun h1 => ⟨?_, fun r hr => ?_⟩, hc.finp⟩, by omega,
    fun j hj => by rw [hg j hj, hc.com j (by omega)], hs⟩
  · show n + bytes.size + rb.data ≤ _; omega
  · show byteAt rb i = _
    rw [hb i, hc.com _ (by omega)]
    exact congrArg (W.getD · 0) (by omega)
  · show s.rcv_nxt.toNat = D + (n + bytes.size) + rb.data ∨ s.rcv_nxt.toNat = _ ∧ n + bytes.size + rb.data = _
    rcases h1.1 with a | a
    · left; omega
    · right; exact ⟨a.1, by omega⟩
  · exact ⟨(h1.2 r hr).1, fun q q1 q2 (q3 : s.rcv_nxt.toNat ≤ q) =>
      agree_read hsz hb (by rcases h1.1 with a | a <;> omega) ((h1.2 r hr).2 q q1 q2 q3)⟩

theorem recv_rinv (s : Sock) (len : Nat) (clk : UInt32) (ret : Int) (bytes : Array UInt8) (s' : Sock)
    (hi : RInv W D n s) (h : recv s len clk = .ok (ret, bytes, s')) :
    ∃ n', n ≤ n' ∧ n' ≤ W.length ∧ W.take n ++ bytes.toList = W.take n' ∧ RInv W D n' s' := by
  rcases recv_local h with ⟨rfl, k⟩ | ⟨bs, rb, hrd, k, hb⟩
  · exact (hi.local k).keep
  · have ⟨hc1, hle, hby, _⟩ := read_rcore W D n s len bs rb hi.toS.core hrd
    have k1 : RInv W D (n + bs.size) { s with rbuf := rb } := ⟨hc1, hi.toS.ph, hi.toS.fin4, Or.inl rfl⟩
    rcases hb with rfl | ⟨rfl, hz⟩
    · exact ⟨_, Nat.le_add_right _ _, hle, take_append_next W n bytes hle hby, k1.local k⟩
    · rw [hz] at k1; exact (k1.local k).keep

theorem recv_zero_empty (s : Sock) (len : Nat) (clk : UInt32) (bytes : Array UInt8) (s' : Sock)
    (hi : RInv W D n s) (hF : Fin4 s.state) (hlen : len ≠ 0) (hsr : s.shutdown_reads = false)
    (hr : recv s len clk = .ok (0, bytes, s')) : s.rbuf.data = 0 := by
  have hfa := (hi.toS.fin4 hF).1
  rcases recv_cases hr with ⟨_, _, ⟨_, c⟩ | c | c⟩ | ⟨bs, rb, hrd, ⟨_, _, c, _⟩ | ⟨c, _⟩⟩
  · rw [hsr] at c; cases c
  · rw [hfa] at c; cases c
  · exact absurd c hlen
  · cases c
  · have ⟨_, _, _, hsz⟩ := read_rcore W D n s len bs rb hi.toS.core hrd
    have : bs.size = 0 := by omega
    omega

theorem fin4_all_committed (s : Sock) (hi : RInv W D n s) (hF : Fin4 s.state) :
    s.rcv_nxt.toNat = D + W.length + 1 ∧ n + s.rbuf.data = W.length := by
  have hiS := hi.toS
  have ⟨hfa, hnx⟩ := hiS.fin4 hF
  have hpre := hiS.core.pre
  refine ⟨hnx, ?_⟩
  rcases hiS.core.sync with h1 | h1
  · rw [hfa] at h1; cases h1.1
  · rcases h1.1 with a | a
    · omega
    · exact a.2

end

/-- the constraint on the environment: every packet handed to `notify_packet` decodes to an honest segment -/
def OpOk (W : List UInt8) (D : Nat) : Op → Prop
  | .packet p => PktOk W D p
  | _ => True

/-- `step` that also returns the bytes `recv` copied to the application (empty for every other operation) -/
def stepG (s : Sock) (clk : UInt32) : Op → R (Sock × Array UInt8)
  | .recv k => do let (_, b, s) ← recv s k clk; pure (s, b)
  | op => do let s ← step s clk op; pure (s, #[])

/-- `run` that also accumulates everything `recv` has returned -/
def runG (s : Sock) (got : List UInt8) : List (UInt32 × Op) → R (Sock × List UInt8)
  | [] => pure (s, got)
  | (clk, op) :: rest => do let (s, b) ← stepG s clk op; runG s (got ++ b.toList) rest

theorem stepG_erase (s : Sock) (clk : UInt32) (op : Op) : (stepG s clk op).map (·.1) = step s clk op := by
  cases op
  case recv k =>
    show ((recv s k clk >>= fun r => pure (r.2.2, r.2.1)) : R (Sock × Array UInt8)).map (·.1) =
      (recv s k clk >>= fun r => pure r.2.2)
    cases recv s k clk <;> rfl
  all_goals exact erase_snd _ _

theorem runG_erase (s : Sock) (got : List UInt8) (ops : List (UInt32 × Op)) :
    (runG s got ops).map (·.1) = run s ops := by
  induction ops generalizing s got with
  | nil => rfl
  | cons x rest ih =>
    obtain ⟨clk, op⟩ := x
    simp only [runG, run]
    rw [← stepG_erase]
    cases h : stepG s clk op with
    | error e => rfl
    | ok v => exact ih v.1 _

theorem stepG_step {s s' : Sock} {clk : UInt32} {op : Op} {b : Array UInt8} (hop : ∀ k, op ≠ .recv k)
    (h : stepG s clk op = .ok (s', b)) : b = #[] ∧ step s clk op = .ok s' := by
  cases op with
  | recv k => exact absurd rfl (hop k)
  | _ =>
    obtain ⟨s1, h1, h⟩ := bind_ok h
    cases h; exact ⟨rfl, h1⟩

section
variable (W : List UInt8) (D n : Nat)

theorem stepG_rinv (hB : D + W.length + 2 < 2 ^ 31) (s : Sock) (clk : UInt32) (op : Op) (s' : Sock) (b : Array UInt8)
    (hi : RInv W D n s) (hop : OpOk W D op) (h : stepG s clk op = .ok (s', b)) :
    ∃ n', n ≤ n' ∧ n' ≤ W.length ∧ W.take n ++ b.toList = W.take n' ∧ RInv W D n' s' := by
  cases op with
  | recv k =>
    obtain ⟨⟨ret, b1, s1⟩, h1, h⟩ := bind_ok h
    cases h
    exact recv_rinv W D n s k clk ret b s' hi h1
  | packet p =>
    obtain ⟨rfl, h1⟩ := stepG_step (fun _ e => by cases e) h
    obtain ⟨r, h2, h1⟩ := bind_ok h1
    cases h1
    exact (notifyPacket_rinv W D n hB p hop s clk _ hi h2).keep
  | setRcvBuf v =>
    obtain ⟨rfl, h1⟩ := stepG_step (fun _ e => by cases e) h
    exact (setRcvBuf_rinv W D n s v _ hi h1).keep
  | _ =>
    obtain ⟨rfl, h1⟩ := stepG_step (fun _ e => by cases e) h
    exact (hi.local (step_local h1 trivial)).keep

end

theorem runG_rinv (W : List UInt8) (D : Nat) (hB : D + W.length + 2 < 2 ^ 31) (ops : List (UInt32 × Op)) :
    ∀ (s : Sock) (n : Nat) (s' : Sock) (got' : List UInt8), RInv W D n s →
      (∀ x, x ∈ ops → OpOk W D x.2) → runG s (W.take n) ops = .ok (s', got') →
      ∃ n', n ≤ n' ∧ n' ≤ W.length ∧ got' = W.take n' ∧ RInv W D n' s' := by
  induction ops with
  | nil =>
    intro s n s' got' hi _ h
    cases h
    exact ⟨n, Nat.le_refl _, hi.le, rfl, hi⟩
  | cons x rest ih =>
    intro s n s' got' hi hops h
    obtain ⟨clk, op⟩ := x
    simp only [runG] at h
    obtain ⟨⟨s1, b⟩, h1, h⟩ := bind_ok h
    have ⟨n1, k1, k2, k3, k4⟩ := stepG_rinv W D n hB s clk op s1 b hi (hops (clk, op) List.mem_cons_self) h1
    simp only at h
    rw [k3] at h
    obtain ⟨n', a1, a2, a3, a4⟩ := ih s1 n1 s' got' k4 (fun x hx => hops x (List.mem_cons_of_mem _ hx)) h
    exact ⟨n', by omega, a2, a3, a4⟩

end Nice.Proofs.PTcpStream
