import Nice.Proofs.PTcpFifo
namespace Nice.Proofs.PTcp
open Nice.PTcp Nice.Gen

/-- every public entry point of agent/pseudotcp.h plus the two inputs of the environment (the `WritePacket` result and
    the test clock).  `clk` of `step` is the monotonic clock in ms at the time of the call. -/
inductive Op where
  | setRcvBuf (v : UInt32) | setSndBuf (v : UInt32) | setNoDelay (b : Bool) | setAckDelay (v : UInt32)
  | setTime (t : UInt32) | setWres (w : WriteResult)
  | connect | send (d : Array UInt8) | recv (n : Nat) | packet (p : Array UInt8) | clock
  | nextClock (t0 : UInt64) | shutdown (h : ShutdownHow) | close (force : Bool) | mtu (m : UInt16)
  | availSendSpace

def step (s : Sock) (clk : UInt32) : Op → R Sock
  | .setRcvBuf v => setRcvBuf s v
  | .setSndBuf v => setSndBuf s v
  | .setNoDelay b => pure { s with use_nagling := !b }
  | .setAckDelay v => pure { s with ack_delay := v }
  | .setTime t => pure (setTime s t)
  | .setWres w => pure { s with wres := w }
  | .connect => do let (_, s) ← connect s clk; pure s
  | .send d => do let (_, s) ← send s d clk; pure s
  | .recv n => do let (_, _, s) ← recv s n clk; pure s
  | .packet p => do let (_, s) ← notifyPacket s p clk; pure s
  | .clock => notifyClock s clk
  | .nextClock t0 => do let (_, _, s) ← getNextClock s t0 clk; pure s
  | .shutdown h => shutdown s h clk
  | .close f => close s f clk
  | .mtu m => notifyMtu s m
  | .availSendSpace => pure (getAvailableSendSpace s).2

/-- a history: operations with the clock value at which each is made -/
def run (s : Sock) : List (UInt32 × Op) → R Sock
  | [] => pure s
  | (clk, op) :: rest => do let s ← step s clk op; run s rest

theorem run_induction {P : Sock → Prop} (hstep : ∀ s s' clk op, P s → step s clk op = .ok s' → P s')
    (ops : List (UInt32 × Op)) (s s' : Sock) (hi : P s) (h : run s ops = .ok s') : P s' := by
  induction ops generalizing s with
  | nil => cases h; exact hi
  | cons x rest ih =>
    obtain ⟨s1, hs, h⟩ := bind_ok h
    exact ih s1 (hstep s s1 x.1 x.2 hi hs) h

/-- the stream layer's instrumented steps (`stepG`, `stepS`) are `step` with a second component: this erases it -/
theorem erase_snd {β : Type} (x : R Sock) (b : β) : (x >>= fun s => pure (s, b)).map (·.1) = x := by
  cases x <;> rfl

end Nice.Proofs.PTcp
