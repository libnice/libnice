/- C17, TURN-over-TCP: a receive call lands where a byte-at-a-time reference decoder lands over the bytes it took -/
import Nice.Proofs.C17Feed
namespace Nice.Props.C17
open Nice.Sock Nice.Drv Nice.TurnTcp

/-- `Obs.errored` for this layer's stop test -/
def errd (o : Obs) : Bool := o.rets.any (fun r => decide (r < 0))

theorem errd_add (o : Obs) (r : Res) : errd (o.add r) = (errd o || decide (r.ret < 0)) := any_rets_add o r _

/-- what C17 compares between two deliveries of one stream: final layer state, messages handed upward (with their
    boundaries), bytes written downward, whether an error was reported -/
structure TOut where
  st      : St
  msgs    : List Bytes
  wire    : Bytes
  errored : Bool
  deriving DecidableEq

def tOut (x : St × Base × Obs) : TOut := { st := x.1, msgs := x.2.2.msgs, wire := x.2.2.wire, errored := errd x.2.2 }

namespace TurnTcp

/-- decoding of a complete header held in `buf`: `none` = refuse (bad payload type / unknown mode),
    otherwise the bytes kept in the buffer and `expecting_len` -/
def hdr (c : Compat) (buf : Bytes) : Option (Bytes × Nat) :=
  match c with
  | .draft9 | .rfc5766 =>
    some (buf, if be16 (buf.getD 0 0) (buf.getD 1 0) < 0x4000 then 20 + be16 (buf.getD 2 0) (buf.getD 3 0)
               else 4 + be16 (buf.getD 2 0) (buf.getD 3 0))
  | .google => some ([], be16 (buf.getD 0 0) (buf.getD 1 0))
  | .oc2007 =>
    if buf.getD 0 0 != MS_TURN_CONTROL_MESSAGE && buf.getD 0 0 != MS_TURN_END_TO_END_DATA then none
    else some ([buf.getD 2 0, buf.getD 3 0], be16 (buf.getD 2 0) (buf.getD 3 0) + 2)
  | .msn => none

theorem headerLen_bounds (c : Compat) (hl : Nat) (h : headerLen c = some hl) : 2 ≤ hl ∧ hl ≤ 4 := by
  cases c <;> simp [headerLen] at h <;> omega

def frameLen (c : Compat) (e : Nat) : Nat := e + padLen c e

theorem frameLen_zero (c : Compat) : frameLen c 0 = 0 := by simp [frameLen, padLen]

theorem hdr_fits (c : Compat) (buf buf' : Bytes) (e hl : Nat) (hh : headerLen c = some hl) (hlen : buf.length = hl)
    (h : hdr c buf = some (buf', e)) : buf'.length ≤ frameLen c e := by
  unfold frameLen
  cases c <;> simp only [headerLen, Option.some.injEq, reduceCtorEq] at hh <;> simp only [hdr] at h
  · obtain ⟨rfl, rfl⟩ := Prod.mk.inj (Option.some.inj h); split <;> omega
  · obtain ⟨rfl, rfl⟩ := Prod.mk.inj (Option.some.inj h); simp
  · split at h
    · simp at h
    · obtain ⟨rfl, rfl⟩ := Prod.mk.inj (Option.some.inj h); simp; omega
  · obtain ⟨rfl, rfl⟩ := Prod.mk.inj (Option.some.inj h); split <;> omega

/-- `socket_recv_message` with `expecting_len == 0`, in terms of `hdr` -/
theorem recvMessage_hdr (s : St) (b : Base) (hl : Nat) (h0 : s.expecting = 0)
    (hh : headerLen s.compat = some hl) (hlen : s.buf.length ≤ hl) :
    recvMessage s b =
      (let r := b.read (hl - s.buf.length)
       if r.1.1 < 0 then ((r.1.1, none), s, r.2)
       else
         let s1 := { s with buf := s.buf ++ r.1.2 }
         if s1.buf.length < hl then ((0, none), s1, r.2)
         else match hdr s.compat s1.buf with
           | none => ((-1, none), s1, r.2)
           | some (buf', e) => recvPayload { s1 with buf := buf', expecting := e } r.2) := by
  have hnf : ¬ s.buf.length > hl := by omega
  rcases hr : b.read (hl - s.buf.length) with ⟨⟨ret, bytes⟩, b1⟩
  cases hc : s.compat <;> simp only [hc, headerLen, Option.some.injEq, reduceCtorEq] at hh
  all_goals (subst hh; simp only [recvMessage, h0, hc, headerLen, hnf, hr, hdr, beq_self_eq_true, ↓reduceIte])
  all_goals (split <;> try rfl)
  all_goals (split <;> try rfl)
  all_goals (try (split <;> rfl))

/-- the payload half of a call when the frame fits `recv_buf`, over any base; when the header is the frame nothing is read -/
theorem recvPayload_eq (s : St) (b : Base)
    (hfit : frameLen s.compat s.expecting ≤ BUFSZ)
    (hle : s.buf.length ≤ frameLen s.compat s.expecting) :
    recvPayload s b =
      (let r := if frameLen s.compat s.expecting - s.buf.length > 0
         then b.read (frameLen s.compat s.expecting - s.buf.length) else ((0, []), b)
       if r.1.1 < 0 then ((r.1.1, none), s, r.2)
       else if (s.buf ++ r.1.2).length = frameLen s.compat s.expecting then
         (((((s.buf ++ r.1.2).length : Nat) : Int), some (s.buf ++ r.1.2)), { s with expecting := 0, buf := [] }, r.2)
       else ((0, none), { s with buf := s.buf ++ r.1.2 }, r.2)) := by
  unfold frameLen at *
  have h0 : ¬ (s.expecting + padLen s.compat s.expecting > BUFSZ) := by omega
  have h1 : ¬ s.buf.length > s.expecting + padLen s.compat s.expecting := by omega
  have h2 : ¬ s.buf.length + (s.expecting + padLen s.compat s.expecting - s.buf.length) > BUFSZ := by omega
  simp only [recvPayload, h0, h1, h2, ↓reduceIte, beq_iff_eq]

theorem recvPayload_big (s : St) (b : Base) (h : frameLen s.compat s.expecting > BUFSZ) :
    recvPayload s b = ((-1, none), s, b) := by
  unfold frameLen at h; simp only [recvPayload, h, ↓reduceIte]

theorem recvPayload_fits (s : St) (b : Base)
    (hfit : frameLen s.compat s.expecting ≤ BUFSZ)
    (hle : s.buf.length ≤ frameLen s.compat s.expecting) (hb : Base.Healthy b) :
    recvPayload s b =
      (let k := frameLen s.compat s.expecting - s.buf.length
       let buf := s.buf ++ b.pend.take k
       if buf.length = frameLen s.compat s.expecting then
         ((((buf.length : Nat) : Int), some buf), { s with expecting := 0, buf := [] }, { b with pend := b.pend.drop k })
       else ((0, none), { s with buf := buf }, { b with pend := b.pend.drop k })) := by
  rw [recvPayload_eq s b hfit hle]
  by_cases hc : frameLen s.compat s.expecting - s.buf.length > 0
  · simp only [hc, ↓reduceIte, read_healthy b hb _ hc]
    by_cases hp : b.pend = [] <;> simp [hp]
  · have : frameLen s.compat s.expecting - s.buf.length = 0 := by omega
    simp [this]

inductive Ph where
  | run | stuck
  deriving DecidableEq, Repr

/-- reference decoder state: bytes of the current partial header/frame, announced frame size (0 while
    the header is incomplete), phase, frames delivered so far -/
structure A where
  buf : Bytes := []
  exp : Nat := 0
  ph  : Ph := .run
  out : List Bytes := []
  deriving DecidableEq, Repr

def close (c : Compat) (a : A) : A :=
  if a.exp ≠ 0 ∧ a.buf.length = frameLen c a.exp then { a with buf := [], exp := 0, out := a.out ++ [a.buf] } else a

/-- what `socket_recv_message` decides once `buf` has grown -/
def settle (c : Compat) (hl : Nat) (a : A) : A :=
  if a.exp ≠ 0 then close c a
  else if a.buf.length < hl then a
  else match hdr c a.buf with
    | none => { a with ph := .stuck }
    | some (buf', e) =>
      if frameLen c e > BUFSZ then { a with buf := buf', exp := e, ph := .stuck }
      else close c { a with buf := buf', exp := e }

/-- one byte (`hl`: the mode's header length) -/
def stepA (c : Compat) (hl : Nat) (a : A) (x : UInt8) : A :=
  match a.ph with
  | .run => settle c hl { a with buf := a.buf ++ [x] }
  | .stuck => a

def runA (c : Compat) (hl : Nat) (a : A) (bs : Bytes) : A := bs.foldl (stepA c hl) a

theorem runA_append (c : Compat) (hl : Nat) (a : A) (xs ys : Bytes) :
    runA c hl a (xs ++ ys) = runA c hl (runA c hl a xs) ys := by simp [runA]

theorem runA_stuck (c : Compat) (hl : Nat) (a : A) (bs : Bytes) (h : a.ph = .stuck) : runA c hl a bs = a := by
  induction bs with
  | nil => rfl
  | cons x xs ih => simpa [runA, stepA, h] using ih

theorem close_zero (c : Compat) (a : A) (h : a.exp = 0) : close c a = a := by simp [close, h]

theorem close_lt (c : Compat) (a : A) (h : a.buf.length < frameLen c a.exp) : close c a = a := by
  simp [close, Nat.ne_of_lt h]

theorem close_full (c : Compat) (a : A) (h0 : a.exp ≠ 0) (h : a.buf.length = frameLen c a.exp) :
    close c a = { a with buf := [], exp := 0, out := a.out ++ [a.buf] } := by simp [close, h0, h]

theorem settle_payload (c : Compat) (hl : Nat) (a : A) (h : a.exp ≠ 0) : settle c hl a = close c a := by simp [settle, h]

theorem settle_header (c : Compat) (hl : Nat) (a : A) (h0 : a.exp = 0) (h : ¬ a.buf.length < hl) :
    settle c hl a = match hdr c a.buf with
      | none => { a with ph := .stuck }
      | some (buf', e) =>
        if frameLen c e > BUFSZ then { a with buf := buf', exp := e, ph := .stuck }
        else close c { a with buf := buf', exp := e } := by simp [settle, h0, h]

/-- the bytes `buf` must hold before anything is decided -/
def want (c : Compat) (hl exp : Nat) : Nat := if exp = 0 then hl else frameLen c exp

theorem want_zero (c : Compat) (hl : Nat) : want c hl 0 = hl := rfl

theorem want_pos (c : Compat) (hl e : Nat) (h : e ≠ 0) : want c hl e = frameLen c e := by simp [want, h]

theorem settle_lt (c : Compat) (hl : Nat) (a : A) (h : a.buf.length < want c hl a.exp) : settle c hl a = a := by
  by_cases he : a.exp = 0
  · rw [he, want_zero] at h; simp [settle, he, h]
  · rw [want_pos c hl _ he] at h; rw [settle_payload c hl a he, close_lt c a h]

/-- a chunk within the bytes wanted is taken whole before anything is decided -/
theorem runA_chunk (c : Compat) (hl : Nat) (bs : Bytes) : ∀ (a : A), a.ph = .run →
    a.buf.length < want c hl a.exp → a.buf.length + bs.length ≤ want c hl a.exp →
    runA c hl a bs = settle c hl { a with buf := a.buf ++ bs } := by
  induction bs with
  | nil => intro a _ hlt _; simp [runA, settle_lt c hl a hlt]
  | cons x xs ih =>
    intro a hp hlt hle
    have h1 : runA c hl a (x :: xs) = runA c hl (settle c hl { a with buf := a.buf ++ [x] }) xs := by
      simp [runA, stepA, hp]
    rw [h1]
    cases xs with
    | nil => rfl
    | cons y ys =>
      simp only [List.length_cons] at hle
      rw [settle_lt c hl _ (by simp; omega), ih { a with buf := a.buf ++ [x] } hp (by simp; omega) (by simp; omega)]
      simp

/-- running: waiting for bytes that fit `recv_buf`; stuck: a frame that cannot fit, or a refused header -/
def RefInv (c : Compat) (hl : Nat) (a : A) : Prop :=
  (a.ph = .run → want c hl a.exp ≤ BUFSZ ∧ a.buf.length < want c hl a.exp) ∧
  (a.ph = .stuck → want c hl a.exp > BUFSZ ∨ (a.exp = 0 ∧ a.buf.length = hl ∧ hdr c a.buf = none))

theorem close_inv (c : Compat) (hl : Nat) (hh : headerLen c = some hl) (a : A) (hp : a.ph = .run)
    (hfit : frameLen c a.exp ≤ BUFSZ) (hle : a.buf.length ≤ frameLen c a.exp) :
    RefInv c hl (close c a) := by
  have := headerLen_bounds c hl hh
  have hB : BUFSZ = 65536 := rfl
  by_cases h0 : a.exp = 0
  · rw [close_zero c a h0]
    rw [h0, frameLen_zero] at hle
    exact ⟨fun _ => by rw [h0, want_zero]; omega, fun h => by simp [hp] at h⟩
  · by_cases hfull : a.buf.length = frameLen c a.exp
    · rw [close_full c a h0 hfull]
      exact ⟨fun _ => by simp only [want_zero, List.length_nil]; omega, fun h => by simp [hp] at h⟩
    · rw [close_lt c a (by omega)]
      exact ⟨fun _ => by rw [want_pos c hl _ h0]; omega, fun h => by simp [hp] at h⟩

/-- `settle` waits on, closes (`close_inv`), or gets stuck for one of the two reasons in `RefInv` -/
theorem settle_inv (c : Compat) (hl : Nat) (hh : headerLen c = some hl) (a : A) (hp : a.ph = .run)
    (hfit : want c hl a.exp ≤ BUFSZ) (hle : a.buf.length ≤ want c hl a.exp) : RefInv c hl (settle c hl a) := by
  by_cases hlt : a.buf.length < want c hl a.exp
  · rw [settle_lt c hl a hlt]; exact ⟨fun _ => ⟨hfit, hlt⟩, fun h => by simp [hp] at h⟩
  by_cases he : a.exp = 0
  · rw [he, want_zero] at hlt hle
    rw [settle_header c hl a he hlt]
    have heq : a.buf.length = hl := by omega
    cases hhd : hdr c a.buf with
    | none => exact ⟨fun h => by simp at h, fun _ => Or.inr ⟨he, heq, hhd⟩⟩
    | some be =>
      obtain ⟨buf', e⟩ := be
      have hft := hdr_fits c a.buf buf' e hl hh heq hhd
      by_cases hbig : frameLen c e > BUFSZ
      · have h0 : e ≠ 0 := by intro h; simp [h, frameLen_zero, BUFSZ] at hbig
        simp only [hbig, ↓reduceIte]
        exact ⟨fun h => by simp at h, fun _ => Or.inl (by rw [want_pos c hl e h0]; exact hbig)⟩
      · simp only [hbig, ↓reduceIte]
        exact close_inv c hl hh _ hp (by simp only; omega) hft
  · rw [want_pos c hl _ he] at hfit hle
    rw [settle_payload c hl a he]
    exact close_inv c hl hh a hp hfit hle

theorem runA_inv (c : Compat) (hl : Nat) (hh : headerLen c = some hl) (bs : Bytes) : ∀ (a : A), RefInv c hl a →
    RefInv c hl (runA c hl a bs) := by
  induction bs with
  | nil => intro a h; exact h
  | cons x xs ih =>
    intro a h
    refine ih _ ?_
    cases hp : a.ph with
    | stuck => simpa [stepA, hp] using h
    | run =>
      obtain ⟨h1, h2⟩ := h.1 hp
      simp only [stepA, hp]
      exact settle_inv c hl hh _ rfl h1 (by simp; omega)

/-- the tail of `socket_recv_messages`: turn (len, message) into the reported result.  Written with the
    same pattern match as `Nice.TurnTcp.recv`, so that `recv = wrap ∘ recvMessage` holds by `rfl` -/
def wrap (x : (Int × Option Bytes) × St × Base) : Res × St × Base :=
  let ((len, msg), s, b) := x
  if len < 0 then ({ ret := -1 }, s, b)
  else if len == 0 then ({ ret := 0 }, s, b)
  else match msg with
    | some m => ({ ret := 1, up := [{ data := m }] }, s, b)
    | none => ({ ret := 1 }, s, b)

theorem recv_eq_wrap (s : St) (b : Base) : Nice.TurnTcp.recv s b = wrap (recvMessage s b) := rfl

/-- the phase is read off the observations: the decoder is stuck iff some call has reported an error -/
def refState (s : St) (o : Obs) : A :=
  { buf := s.buf, exp := s.expecting, ph := if errd o then .stuck else .run, out := o.msgs }

/-- The reference starts from `close`: a header that is a whole frame (ChannelData of length 0) it settled on the
    header's last byte, the layer only here.  `hl` is free (unused in a payload phase); `r` names the result once. -/
theorem payload_call (hl : Nat) (s : St) (b : Base) (o : Obs) (hf : s.fault = false) (he : errd o = false)
    (hfit : frameLen s.compat s.expecting ≤ BUFSZ)
    (hle : s.buf.length ≤ frameLen s.compat s.expecting)
    (hb : Base.Healthy b) (r : Res × St × Base) (hr : r = wrap (recvPayload s b)) :
    refState r.2.1 (o.add r.1) =
      runA s.compat hl (close s.compat (refState s o)) (b.pend.take (frameLen s.compat s.expecting - s.buf.length)) ∧
    r.2.2 = { b with pend := b.pend.drop (frameLen s.compat s.expecting - s.buf.length) } ∧
    r.2.1.compat = s.compat ∧ r.2.1.fault = false ∧ r.1.down = [] := by
  subst hr
  rw [recvPayload_fits s b hfit hle hb]
  dsimp only
  have hpos : ∀ n : Nat, n ≠ 0 → ¬ ((n : Int) < 0) ∧ ((n : Int) == 0) = false := fun n hn => by
    constructor <;> simp <;> omega
  by_cases hlt : s.buf.length < frameLen s.compat s.expecting
  · -- the frame is incomplete: the chunk lemma
    have h0 : s.expecting ≠ 0 := by
      intro h; rw [h, frameLen_zero] at hlt; omega
    have hlen : s.buf.length + (b.pend.take (frameLen s.compat s.expecting - s.buf.length)).length ≤
        frameLen s.compat s.expecting := by simp only [List.length_take]; omega
    rw [close_lt _ _ (by simpa [refState] using hlt),
      runA_chunk s.compat hl _ (refState s o) (by simp [refState, he])
        (by simpa [refState, want_pos _ _ _ h0] using hlt) (by simpa [refState, want_pos _ _ _ h0] using hlen),
      settle_payload _ _ _ (by simpa [refState] using h0)]
    rw [← List.length_append] at hlen
    simp only [refState]
    generalize s.buf ++ b.pend.take (frameLen s.compat s.expecting - s.buf.length) = buf2 at hlen ⊢
    by_cases hfull : buf2.length = frameLen s.compat s.expecting
    · have hW0 := hpos (frameLen s.compat s.expecting) (by omega)
      rw [close_full _ _ h0 hfull]
      simp [wrap, hfull, hW0.1, hW0.2, errd_add, he, msgs_add, hf]
    · rw [close_lt _ _ (by simp only; omega)]
      simp [wrap, hfull, errd_add, he, msgs_add, hf]
  · -- the header is the frame (or announces nothing): nothing is read
    have hfull : s.buf.length = frameLen s.compat s.expecting := by omega
    simp only [hfull, runA]
    by_cases h0 : s.expecting = 0
    · rw [h0, frameLen_zero] at hfull
      rw [close_zero _ _ (by simpa [refState] using h0)]
      simp [wrap, refState, h0, List.eq_nil_of_length_eq_zero hfull, frameLen_zero, errd_add, he, msgs_add, hf]
    · have hW0 := hpos (frameLen s.compat s.expecting) (by unfold frameLen; omega)
      rw [close_full _ _ (by simpa [refState] using h0) (by simpa [refState] using hfull)]
      simp [wrap, refState, hfull, hW0.1, hW0.2, errd_add, he, msgs_add, hf]

theorem stuck_recv (hl : Nat) (s : St) (b : Base) (o : Obs) (hh : headerLen s.compat = some hl) (he : errd o = true)
    (h : RefInv s.compat hl (refState s o)) : (Nice.TurnTcp.recv s b).1 = { ret := -1 } ∧ (Nice.TurnTcp.recv s b).2.1 = s := by
  rcases h.2 (by simp [refState, he]) with h | ⟨h0, hlen, hhdr⟩
  · have h0 : s.expecting ≠ 0 := by
      intro h0; have := headerLen_bounds _ _ hh; simp only [refState, h0, want_zero, BUFSZ] at h; omega
    simp only [refState, want_pos _ _ _ h0] at h
    simp [recv_eq_wrap, recvMessage, h0, recvPayload_big s b h, wrap]
  · simp only [refState] at h0 hlen hhdr
    rw [recv_eq_wrap, recvMessage_hdr s b hl h0 hh (by omega)]
    have hrl := read_len b (hl - s.buf.length)
    rcases hr : b.read (hl - s.buf.length) with ⟨⟨ret, bytes⟩, b1⟩
    rw [hr] at hrl
    have hb : bytes = [] := List.length_eq_zero_iff.mp (by simp only at hrl; omega)
    subst hb
    by_cases hneg : ret < 0
    · simp [hneg, wrap]
    · simp only [hneg, ↓reduceIte, List.append_nil, hlen, Nat.lt_irrefl, hhdr]
      exact ⟨rfl, by cases s; rfl⟩

/-- a receive call takes `k` pending bytes and lands where the reference lands over them; a header completed
    in the call is followed by `payload_call` in the same call -/
theorem run_recv (hl : Nat) (s : St) (b : Base) (o : Obs) (hh : headerLen s.compat = some hl) (hf : s.fault = false)
    (he : errd o = false) (hi : RefInv s.compat hl (refState s o)) (hb : Base.Healthy b)
    (r : Res × St × Base) (hr : r = Nice.TurnTcp.recv s b) :
    ∃ k, (b.pend ≠ [] → 0 < k) ∧ r.2.2 = { b with pend := b.pend.drop k } ∧
      refState r.2.1 (o.add r.1) = runA s.compat hl (refState s o) (b.pend.take k) ∧
      r.2.1.compat = s.compat ∧ r.2.1.fault = false ∧ r.1.down = [] := by
  subst hr
  have hrun : (refState s o).ph = .run := by simp [refState, he]
  obtain ⟨hfit, hlt⟩ := hi.1 hrun
  simp only [refState] at hfit hlt
  rw [recv_eq_wrap]
  by_cases h0 : s.expecting = 0
  · rw [h0, want_zero] at hlt
    have hk1 : 0 < hl - s.buf.length := by omega
    rw [recvMessage_hdr s b hl h0 hh (by omega), read_healthy b hb _ hk1]
    generalize hk : hl - s.buf.length = k1 at *
    have hnn : ¬ ((if b.pend = [] then (0 : Int) else 1) < 0) := by split <;> decide
    have hlen : s.buf.length + (b.pend.take k1).length ≤ hl := by simp only [List.length_take]; omega
    have ha : refState s o = ⟨s.buf, 0, .run, o.msgs⟩ := by simp [refState, he, h0]
    have hA := runA_chunk s.compat hl (b.pend.take k1) ⟨s.buf, 0, .run, o.msgs⟩ rfl hlt hlen
    rw [ha]
    simp only [hnn, ↓reduceIte]
    rw [← List.length_append] at hlen
    generalize s.buf ++ b.pend.take k1 = buf1 at *
    by_cases hpart : buf1.length < hl
    · refine ⟨k1, fun _ => hk1, ?_⟩
      rw [hA, settle_lt _ _ _ hpart]
      simp [hpart, wrap, refState, errd_add, he, msgs_add, hf, h0]
    · simp only [hpart, ↓reduceIte]
      rw [settle_header _ _ _ rfl hpart] at hA
      cases hhd : hdr s.compat buf1 with
      | none =>
        refine ⟨k1, fun _ => hk1, ?_⟩
        rw [hA, hhd]
        simp [wrap, refState, errd_add, msgs_add, hf, h0]
      | some be =>
        obtain ⟨buf', e⟩ := be
        rw [hhd] at hA
        simp only at hA ⊢
        by_cases hbig : frameLen s.compat e > BUFSZ
        · refine ⟨k1, fun _ => hk1, ?_⟩
          rw [hA, recvPayload_big { s with buf := buf', expecting := e } _ hbig]
          simp [hbig, wrap, refState, errd_add, msgs_add, hf]
        · have hft := hdr_fits s.compat _ buf' e hl hh (by omega) hhd
          obtain ⟨p1, p2, p3, p4, p5⟩ := payload_call hl { s with buf := buf', expecting := e }
            { b with pend := b.pend.drop k1 } o hf he (by simp only; omega) hft hb _ rfl
          simp only at p1 p2 p3 p4 p5
          refine ⟨k1 + (frameLen s.compat e - buf'.length), fun _ => by omega, ?_, ?_, p3, p4, p5⟩
          · rw [p2]; simp [List.drop_drop]
          · rw [p1, List.take_add, runA_append, hA, if_neg hbig]; simp [refState, he]
  · rw [want_pos _ _ _ h0] at hlt hfit
    have : recvMessage s b = recvPayload s b := by simp [recvMessage, h0]
    rw [this]
    obtain ⟨p1, p2, p3, p4, p5⟩ := payload_call hl s b o hf he hfit (by omega) hb _ rfl
    rw [close_lt _ _ (by simpa [refState] using hlt)] at p1
    exact ⟨_, fun _ => by omega, p2, p1, p3, p4, p5⟩

/-- The base is only known healthy while the decoder runs: after a refused header the layer asks for
    `headerlen - recv_buf_len = 0` bytes, and tcp-bsd takes recvmsg's 0 for end of stream (error flag). -/
def Ok (hl : Nat) (c : Compat) (x : St × Base × Obs) : Prop :=
  x.1.compat = c ∧ x.1.fault = false ∧ x.2.2.down = [] ∧ RefInv c hl (refState x.1 x.2.2) ∧
  (errd x.2.2 = false → Base.Healthy x.2.1)

def refines (hl : Nat) (c : Compat) (hh : headerLen c = some hl) : Refines turnTcpM (fun _ => 0) A where
  run := runA c hl
  abs := refState
  Ok := Ok hl c
  μ x := x.2.1.pend.length
  run_append := runA_append c hl
  push := fun s b o ch h => ⟨h, by simp only [feedFuel]; omega⟩
  call := by
    rintro ⟨s, b, o⟩ ⟨rfl, hf, hd, hi, hb⟩
    simp only at hf hd hi hb
    have hrecv : turnTcpM.recv s b = Nice.TurnTcp.recv s b := rfl
    simp only [afterCall, callsAgain, hrecv]
    cases he : errd o with
    | true =>
      obtain ⟨h1, h2⟩ := stuck_recv hl s b o hh he hi
      have ha : refState s (o.add (Nice.TurnTcp.recv s b).1) = refState s o := by simp [refState, errd_add, he, msgs_add, h1]
      have hst : ∀ p, runA s.compat hl (refState s o) p = refState s o := fun p => runA_stuck _ _ _ _ (by simp [refState, he])
      rw [h2, ha, hst, hst]
      exact ⟨⟨rfl, hf, by simp [Obs.add, hd, h1], by rw [ha]; exact hi, by simp [errd_add, he]⟩, rfl, by simp [turnTcpM, h1], fun _ => rfl⟩
    | false =>
      obtain ⟨k, hk, r1, r2, r3, r4, r5⟩ := run_recv hl s b o hh hf he hi (hb he) _ rfl
      have hfin : runA s.compat hl (refState s o) b.pend = runA s.compat hl (runA s.compat hl (refState s o) (b.pend.take k)) (b.pend.drop k) := by
        rw [← runA_append, List.take_append_drop]
      rw [r1, r2, hfin]
      refine ⟨⟨r3, r4, by simp [Obs.add, hd, r5], by simp only [r2]; exact runA_inv _ _ hh _ _ hi, fun _ => hb he⟩, rfl, fun h => ?_, fun h => ?_⟩
      · have : b.pend.drop k ≠ [] := by intro h'; simp [h', turnTcpM] at h
        have : b.pend ≠ [] := by intro h'; simp [h'] at this
        have := hk this
        simp only [List.length_drop]; have := List.length_pos_iff.mpr ‹b.pend ≠ []›; omega
      · -- the loop has stopped: the reference is stuck (absorbing), or nothing is pending
        cases hph : (runA s.compat hl (refState s o) (b.pend.take k)).ph with
        | stuck => exact runA_stuck _ _ _ _ hph
        | run =>
          have hn : ¬ (Nice.TurnTcp.recv s b).1.ret < 0 := by
            have := congrArg A.ph r2; rw [hph] at this; simpa [refState, errd_add, he] using this
          simp [turnTcpM, hn] at h; rw [List.drop_eq_nil_of_le h]; rfl

/-- the outcome of any cut list is the reference decoder's over `cs.flatten`; `wire` and `fault` are constant -/
theorem feedAll_spec (hl : Nat) (c : Compat) (hh : headerLen c = some hl) (cs : List Bytes) :
    tOut (feedAll turnTcpM (fun _ => 0) { compat := c } {} cs) =
      { st := { compat := c, buf := (runA c hl {} cs.flatten).buf, expecting := (runA c hl {} cs.flatten).exp, fault := false },
        msgs := (runA c hl {} cs.flatten).out, wire := [], errored := decide ((runA c hl {} cs.flatten).ph = .stuck) } := by
  have := headerLen_bounds c hl hh
  have h0 : (refines hl c hh).Quiet (({ compat := c } : St), ({} : Base), ({} : Obs)) :=
    ⟨⟨rfl, rfl, rfl, ⟨fun _ => by simp only [refState, want_zero, BUFSZ, List.length_nil]; omega, fun h => by simp [refState, errd] at h⟩, fun _ => ⟨rfl, rfl, rfl⟩⟩, rfl⟩
  obtain ⟨⟨⟨h1, h2, h3, _, _⟩, _⟩, habs⟩ := (refines hl c hh).feedAll cs _ h0
  rw [feedAll]
  generalize cs.foldl (feed turnTcpM fun _ => 0) (({ compat := c } : St), ({} : Base), ({} : Obs)) = x at *
  obtain ⟨st, b, o⟩ := x
  have habs' : refState st o = runA c hl {} cs.flatten := habs
  simp only at h1 h2 h3
  simp only [tOut, ← habs', refState, TOut.mk.injEq, Obs.wire, h3]
  refine ⟨by cases st; simp_all, trivial, rfl, ?_⟩
  by_cases h : errd o = true <;> simp [h]

/-- for ANY base, where `Ok` and `Refines` do not apply: no fault, and `buf` within the header or the frame (if it fits) -/
def InBounds (s : St) : Prop :=
  s.fault = false ∧ (s.expecting = 0 → ∀ hl, headerLen s.compat = some hl → s.buf.length ≤ hl) ∧
  (s.expecting ≠ 0 → frameLen s.compat s.expecting ≤ BUFSZ → s.buf.length ≤ frameLen s.compat s.expecting)

theorem recvPayload_inBounds (s : St) (b : Base) (hf : s.fault = false)
    (hb : frameLen s.compat s.expecting ≤ BUFSZ → s.buf.length ≤ frameLen s.compat s.expecting) :
    InBounds (recvPayload s b).2.1 := by
  have of_bound : ∀ t : St, t.fault = false →
      (frameLen t.compat t.expecting ≤ BUFSZ → t.buf.length ≤ frameLen t.compat t.expecting) →
      InBounds t := fun t hf hb => by
    refine ⟨hf, fun h0 hl hh => ?_, fun _ => hb⟩
    have := hb (by simp [h0, frameLen_zero])
    simp [h0, frameLen_zero] at this; simp [this]
  have hw := of_bound s hf hb
  by_cases hbig : frameLen s.compat s.expecting > BUFSZ
  · rw [recvPayload_big s b hbig]; exact hw
  · rw [recvPayload_eq s b (by omega) (hb (by omega))]
    extract_lets r
    -- whatever the base answers, it stores no more than the bytes asked for
    have hrl : r.1.2.length ≤ frameLen s.compat s.expecting - s.buf.length := by
      simp only [r]; split
      · exact read_len b _
      · simp
    clear_value r
    obtain ⟨⟨ret, bytes⟩, b1⟩ := r
    simp only at hrl ⊢
    split
    · exact hw
    · split
      · exact ⟨hf, fun _ hl hh => by simp, fun h => by simp at h⟩
      · exact of_bound _ hf (fun _ => by simp only [List.length_append]; omega)

theorem recv_inBounds (s : St) (b : Base) (hw : InBounds s) : InBounds (Nice.TurnTcp.recv s b).2.1 := by
  have hwrap : ∀ x, (wrap x).2.1 = x.2.1 := fun ⟨⟨len, msg⟩, s, b⟩ => by
    simp only [wrap]; split; · rfl
    split; · rfl
    split <;> rfl
  rw [recv_eq_wrap, hwrap]
  obtain ⟨hf, h0c, hnc⟩ := hw
  by_cases h0 : s.expecting = 0
  · cases hh : headerLen s.compat with
    | none =>
      have : recvMessage s b = ((-1, none), s, b) := by
        cases hc : s.compat <;> simp [hc, headerLen] at hh
        simp [recvMessage, h0, hc, headerLen]
      rw [this]; exact ⟨hf, h0c, hnc⟩
    | some hl =>
      have hlen := h0c h0 hl hh
      rw [recvMessage_hdr s b hl h0 hh hlen]
      have hrl := read_len b (hl - s.buf.length)
      generalize b.read (hl - s.buf.length) = r at hrl ⊢
      obtain ⟨⟨ret, bytes⟩, b1⟩ := r
      simp only at hrl ⊢
      have hw1 : InBounds { s with buf := s.buf ++ bytes } := by
        refine ⟨hf, fun _ hl' hh' => ?_, fun h => absurd h0 h⟩
        simp only at hh' ⊢; rw [hh] at hh'; cases hh'; simp only [List.length_append]; omega
      split
      · exact ⟨hf, h0c, hnc⟩
      · split
        · exact hw1
        · split
          · exact hw1
          · rename_i hge buf' e hhdr
            exact recvPayload_inBounds _ _ hf fun _ =>
              hdr_fits s.compat (s.buf ++ bytes) buf' e hl hh (by have := List.length_append (as := s.buf) (bs := bytes); omega) hhdr
  · have : recvMessage s b = recvPayload s b := by simp [recvMessage, h0]
    rw [this]
    exact recvPayload_inBounds s b hf (hnc h0)

theorem msn_feed (x : St × Base × Obs) (ch : Bytes) (hc : x.1.compat = .msn) (he : x.1.expecting = 0) :
    (feed turnTcpM (fun _ => 0) x ch).1 = x.1 ∧ (feed turnTcpM (fun _ => 0) x ch).2.2.msgs = x.2.2.msgs ∧
    (feed turnTcpM (fun _ => 0) x ch).2.2.down = x.2.2.down ∧ errd (feed turnTcpM (fun _ => 0) x ch).2.2 = true := by
  obtain ⟨s, b, o⟩ := x
  simp only at hc he
  have hR : turnTcpM.recv s (b.push ch) = ({ ret := -1 }, s, b.push ch) := by
    show Nice.TurnTcp.recv s (b.push ch) = _
    simp [recv_eq_wrap, recvMessage, he, hc, headerLen, wrap]
  have hf : feed turnTcpM (fun _ => 0) (s, b, o) ch = (s, b.push ch, o.add { ret := -1 }) := by
    simp only [feed, feedFuel, pump_succ, callsAgain, afterCall, hR]; rfl
  rw [hf]
  exact ⟨rfl, by simp [msgs_add], by simp [Obs.add], by simp [errd_add]⟩

theorem feedAll_spec_msn (cs : List Bytes) (hne : cs ≠ []) :
    tOut (feedAll turnTcpM (fun _ => 0) { compat := .msn } {} cs) =
      { st := { compat := .msn }, msgs := [], wire := [], errored := true } := by
  obtain ⟨ch, cs, rfl⟩ := List.exists_cons_of_ne_nil hne
  obtain ⟨g1, g2, g3, g4⟩ := feedAll_rule turnTcpM (fun _ => 0)
    (fun x => x.1 = { compat := .msn } ∧ x.2.2.msgs = [] ∧ x.2.2.down = [] ∧ errd x.2.2 = true)
    (fun ch x ⟨h1, h2, h3, _⟩ => by
      obtain ⟨f1, f2, f3, f4⟩ := msn_feed x ch (by rw [h1]) (by rw [h1])
      exact ⟨f1.trans h1, f2.trans h2, f3.trans h3, f4⟩) cs _
    (msn_feed (({ compat := .msn } : St), ({} : Base), ({} : Obs)) ch rfl rfl)
  simp only [feedAll, List.foldl_cons, tOut, TOut.mk.injEq, Obs.wire]
  exact ⟨g1, g2, by rw [g3]; rfl, g4⟩

end TurnTcp
end Nice.Props.C17
