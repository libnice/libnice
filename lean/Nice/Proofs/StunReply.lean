/-
  stun_usage_ice_conncheck_create_reply never faults (C05): the reply buffer is `Good` from the initialiser
  on, each lemma carries that through one block of the C function, and `failure:` is reached with a status.
-/
import Nice.Proofs.StunFinish
namespace Nice.Stun
open Nice.Gen Nice.Spec.Stun

/-- what `stun_agent_init_response` and `_error` share: `stun_message_init`, then SOFTWARE -/
theorem replyHeader_spec (ag : Agent) (buf : Bytes) (cls meth : Nat) (id : Bytes) (hcls : cls < 4) (hsw : SoftwareOk ag)
    (hcap : buf.size ≤ 65535) :
    ∃ r, messageInit buf cls meth id = .ok r ∧ ∀ b, r = some b →
      ∃ b2, maybeSoftware ag b = .ok b2 ∧ Good (some ag.cfg) buf.size b2 := by
  obtain ⟨r, hr, hbuilt⟩ := messageInit_spec (some ag.cfg) buf cls meth id
  refine ⟨r, hr, fun b hb => ?_⟩
  obtain ⟨hB, hs⟩ := hbuilt hcls b hb
  exact maybeSoftware_spec ag hsw ⟨hs, 20, hB⟩ hcap

theorem initResponse_spec (ag : Agent) (old : Msg) (buf : Bytes) (req : Msg) (hsw : SoftwareOk ag)
    (hcap : buf.size ≤ 65535) (hreq : 20 ≤ req.buf.size) :
    ∃ ok m, initResponse ag old buf req = .ok (ok, m) ∧ (ok = true → Good (some ag.cfg) buf.size m.buf) := by
  obtain ⟨⟨cls, hc⟩, ⟨meth, hm⟩, ⟨id, hid⟩, _⟩ := hdr_reads_ok req.buf hreq
  unfold initResponse
  rw [hc, hm, hid]
  simp only
  split
  · exact ⟨false, _, rfl, fun h => by cases h⟩
  · obtain ⟨r, hr, hsoft⟩ := replyHeader_spec ag buf STUN_RESPONSE meth id (by decide) hsw hcap
    rw [hr]
    cases r with
    | none => exact ⟨false, _, rfl, fun h => by cases h⟩
    | some b =>
      obtain ⟨b2, hb2, hg2⟩ := hsoft b rfl
      simp only
      rw [hb2]
      exact ⟨true, _, rfl, fun _ => hg2⟩

theorem strerror_lt (code : Nat) : 4 + (strerror code).size < 2 ^ 63 := by
  have := strerror_size code; omega

theorem initError_spec (ag : Agent) (old : Msg) (buf : Bytes) (req : Msg) (code : Nat) (hsw : SoftwareOk ag)
    (hcap : buf.size ≤ 65535) (hreq : 20 ≤ req.buf.size) :
    ∃ ok m, initError ag old buf req code = .ok (ok, m) ∧ (ok = true → Good (some ag.cfg) buf.size m.buf) := by
  obtain ⟨⟨cls, hc⟩, ⟨meth, hm⟩, ⟨id, hid⟩, _⟩ := hdr_reads_ok req.buf hreq
  unfold initError
  rw [hc, hm, hid]
  simp only
  split
  · exact ⟨false, _, rfl, fun h => by cases h⟩
  · obtain ⟨r, hr, hsoft⟩ := replyHeader_spec ag buf STUN_ERROR meth id (by decide) hsw hcap
    rw [hr]
    cases r with
    | none => exact ⟨false, _, rfl, fun h => by cases h⟩
    | some b =>
      obtain ⟨b2, hb2, hg2⟩ := hsoft b rfl
      simp only
      rw [hb2]
      simp only
      obtain ⟨⟨ret, b3⟩, h3, hg3⟩ := appendError_step (some ag.cfg) code hg2 hcap
      rw [h3]
      cases ret with
      | success => exact ⟨true, _, rfl, fun _ => hg3⟩
      | notFound | invalid | noSpace | unsupported => exact ⟨false, _, rfl, fun h => by cases h⟩

theorem bindError_ok (H : Hashes) (hH : ∀ k t, (H.hmac k t).size = 20) (ag : Agent) (old : Msg) (buf : Bytes)
    (req : Msg) (code : Nat) (hsw : SoftwareOk ag) (hcap : buf.size ≤ 65535) (hreq : 20 ≤ req.buf.size) :
    ∃ r, bindError H ag old buf req code = .ok r := by
  unfold bindError
  obtain ⟨ok, m, hi, ht⟩ := initError_spec ag old buf req code hsw hcap hreq
  rw [hi]
  cases ok
  · exact ⟨_, rfl⟩
  · exact ok_of_total (finishMessage_spec H hH ag m none hcap (ht rfl))

theorem replyFailure_ok (ag : Agent) (c : Bool) (v : Ret) (m : Msg) (hv : v ≠ .success) :
    ∃ r, replyFailure ag c v m = .ok r := by
  unfold replyFailure
  cases v with
  | success => exact absurd rfl hv
  | notFound | invalid | noSpace | unsupported => exact ⟨_, rfl⟩

theorem replyMapped_step (ag : Agent) (src : SockAddr) (srclen compat : Nat) {cap : Nat} {buf : Bytes}
    (hg : Good (some ag.cfg) cap buf) (hcap : cap ≤ 65535) :
    StepOk (some ag.cfg) cap (replyMapped ag buf src srclen compat) := by
  have h20 : 20 ≤ buf.size := by obtain ⟨_, w, hB⟩ := hg; have := hB.ge20; have := hB.le_size; omega
  obtain ⟨_, _, ⟨id, hid⟩, ⟨hc, hhc⟩⟩ := hdr_reads_ok buf h20
  unfold replyMapped
  simp only
  split
  · unfold msnCookie; rw [hid]
    exact appendXorAddrFull_step _ _ _ _ _ hg hcap
  · rw [hhc]
    simp only
    split
    · exact appendXorAddrFull_step _ _ _ _ _ hg hcap
    · exact appendAddr_step _ _ _ _ hg hcap

theorem replyUsername_step (ag : Agent) (req : Msg) {cap : Nat} {buf : Bytes} (hg : Good (some ag.cfg) cap buf)
    (hcap : cap ≤ 65535) {w : UInt16} (hreq : Built req.agent req.buf w) :
    StepOk (some ag.cfg) cap (replyUsername ag buf req) := by
  obtain ⟨r, hf, hrd⟩ := find_built_read hreq tUSERNAME
  unfold replyUsername
  rw [hf]
  cases r with
  | none => exact .same hg _
  | some x =>
    obtain ⟨off, len⟩ := x
    simp only
    rw [hrd off len rfl]
    have := len.toNat_lt
    exact appendBytes_step _ _ _ hg hcap (by simp; omega)

theorem replyBody_ok (H : Hashes) (hH : ∀ k t, (H.hmac k t).size = 20) (ag : Agent) (req m : Msg)
    (src : SockAddr) (srclen compat : Nat) (c : Bool) (ret : Nat) {cap : Nat} (hg : Good (some ag.cfg) cap m.buf)
    (hcap : cap ≤ 65535) {w : UInt16} (hreq : Built req.agent req.buf w) :
    ∃ r, replyBody H ag req m src srclen compat c ret = .ok r := by
  unfold replyBody
  obtain ⟨⟨v1, b1⟩, h1, hg1⟩ := replyMapped_step ag src srclen compat hg hcap
  rw [h1]
  cases v1 with
  | notFound | invalid | noSpace | unsupported => exact replyFailure_ok _ _ _ _ (by decide)
  | success =>
    simp only
    obtain ⟨⟨v2, b2⟩, h2, hg2⟩ := replyUsername_step ag req hg1 hcap hreq
    rw [h2]
    cases v2 with
    | notFound | invalid | noSpace | unsupported => exact replyFailure_ok _ _ _ _ (by decide)
    | success =>
      simp only
      obtain ⟨⟨v3, b3⟩, h3, hg3⟩ : StepOk (some ag.cfg) cap
          (if (compat == STUN_USAGE_ICE_COMPATIBILITY_MSICE2) = true then
            append32 (some ag.cfg) b2 (attrT STUN_ATTRIBUTE_MS_IMPLEMENTATION_VERSION) 2 else .ok (.success, b2)) := by
        split
        · exact appendBytes_step _ _ (be32Bytes 2) hg2 hcap (by decide)
        · exact .same hg2 _
      rw [h3]
      cases v3 with
      | notFound | invalid | noSpace | unsupported => exact replyFailure_ok _ _ _ _ (by decide)
      | success =>
        simp only
        obtain ⟨rf, hrf, _, _⟩ := finishMessage_spec H hH ag
          { buf := b3, agent := m.agent, key := m.key, ltKey := m.ltKey, ltValid := m.ltValid } none hcap hg3
        rw [hrf]
        obtain ⟨n, ag', m'⟩ := rf
        cases n with
        | zero =>
          simp only
          obtain ⟨x, hx⟩ := replyFailure_ok ag c .noSpace m' (by decide)
          rw [hx]; exact ⟨_, rfl⟩
        | succ n => exact ⟨_, rfl⟩

theorem iceCreateReply_ok (H : Hashes) (hH : ∀ k t, (H.hmac k t).size = 20) (ag : Agent) (req old : Msg)
    (buf : Bytes) (src : SockAddr) (srclen : Nat) (control : Bool) (tie : UInt64) (compat : Nat)
    (hsw : SoftwareOk ag) (hcap : buf.size ≤ 65535) (hreq : Valid req.agent req.buf) :
    ∃ r, iceCreateReply H ag req old buf src srclen control tie compat = .ok r := by
  obtain ⟨w, hw, hB⟩ := hreq.built
  have h20 : 20 ≤ req.buf.size := hw ▸ hB.ge20
  obtain ⟨⟨cls, hc⟩, ⟨meth, hm⟩, _, _⟩ := hdr_reads_ok req.buf h20
  unfold iceCreateReply
  rw [hc, hm]
  simp only
  split
  · exact ⟨_, rfl⟩
  · split
    · obtain ⟨r, hr⟩ := bindError_ok H hH ag old buf req STUN_ERROR_BAD_REQUEST hsw hcap h20
      rw [hr]; exact ⟨_, rfl⟩
    · obtain ⟨r1, h1⟩ := find64_ok hB
        (attrT (if control = true then STUN_ATTRIBUTE_ICE_CONTROLLING else STUN_ATTRIBUTE_ICE_CONTROLLED))
      obtain ⟨r2, h2⟩ := find64_ok hB
        (attrT (if control = true then STUN_ATTRIBUTE_ICE_CONTROLLED else STUN_ATTRIBUTE_ICE_CONTROLLING))
      rw [h1, h2]
      obtain ⟨ret1, q⟩ := r1
      simp only
      split
      · obtain ⟨r, hr⟩ := bindError_ok H hH ag old buf req STUN_ERROR_ROLE_CONFLICT hsw hcap h20
        rw [hr]; exact ⟨_, rfl⟩
      · rename_i control' ret _
        obtain ⟨ok, m, hi, ht⟩ := initResponse_spec ag old buf req hsw hcap h20
        rw [hi]
        cases ok
        · exact replyFailure_ok _ _ _ _ (by decide)
        · exact replyBody_ok H hH ag req m src srclen compat control' ret (ht rfl) hcap hB

end Nice.Stun
