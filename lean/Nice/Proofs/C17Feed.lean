/- C17: the receive loop reasoned about once; segmentation independence from refining a reference decoder (`Refines`) -/
import Nice.Proofs.C17Base
namespace Nice.Props.C17
open Nice.Sock

variable {σ : Type}

/-- the test at the bottom of `pump` -/
def callsAgain (m : Machine σ) (r : Res × σ × Base) : Bool :=
  !m.stop r.1.ret && (!r.2.2.pend.isEmpty || m.wake r.2.1)

def afterCall (m : Machine σ) (x : σ × Base × Obs) : σ × Base × Obs :=
  ((m.recv x.1 x.2.1).2.1, (m.recv x.1 x.2.1).2.2, x.2.2.add (m.recv x.1 x.2.1).1)

theorem pump_succ (m : Machine σ) (fuel : Nat) (s : σ) (b : Base) (o : Obs) :
    pump m (fuel + 1) s b o =
      if callsAgain m (m.recv s b) then pump m fuel (afterCall m (s, b, o)).1 (afterCall m (s, b, o)).2.1 (afterCall m (s, b, o)).2.2
      else afterCall m (s, b, o) := rfl

theorem pump_rule (m : Machine σ) (P Q : σ × Base × Obs → Prop) (μ : σ × Base × Obs → Nat)
    (step : ∀ x, P x →
      (callsAgain m (m.recv x.1 x.2.1) = true → P (afterCall m x) ∧ μ (afterCall m x) < μ x) ∧
      (callsAgain m (m.recv x.1 x.2.1) = false → Q (afterCall m x))) :
    ∀ (fuel : Nat) (x : σ × Base × Obs), P x → μ x < fuel → Q (pump m fuel x.1 x.2.1 x.2.2) := by
  intro fuel
  induction fuel with
  | zero => intro x _ h; omega
  | succ fuel ih =>
    intro x hP hμ
    rw [pump_succ]
    obtain ⟨h1, h2⟩ := step x hP
    split
    · rename_i hc
      have hlt := (h1 hc).2
      exact ih (afterCall m x) (h1 hc).1 (by omega)
    · rename_i hc
      exact h2 (by simpa using hc)

theorem pump_inv (m : Machine σ) (P : σ × Base × Obs → Prop) (step : ∀ x, P x → P (afterCall m x)) :
    ∀ (fuel : Nat) (x : σ × Base × Obs), P x → P (pump m fuel x.1 x.2.1 x.2.2) := by
  intro fuel
  induction fuel with
  | zero => intro x h; exact h
  | succ fuel ih =>
    intro x hP
    rw [pump_succ]
    split
    · exact ih (afterCall m x) (step _ hP)
    · exact step _ hP

theorem feedAll_rule (m : Machine σ) (buffered : σ → Nat) (P : σ × Base × Obs → Prop)
    (step : ∀ ch x, P x → P (feed m buffered x ch)) (cs : List Bytes) :
    ∀ (x : σ × Base × Obs), P x → P (cs.foldl (feed m buffered) x) := by
  induction cs with
  | nil => intro x h; exact h
  | cons ch cs ih => intro x h; exact ih _ (step ch x h)

theorem feedAll_inv (m : Machine σ) (buffered : σ → Nat) (P : σ × Base × Obs → Prop)
    (call : ∀ x, P x → P (afterCall m x)) (push : ∀ s b o ch, P (s, b, o) → P (s, b.push ch, o))
    (cs : List Bytes) (x : σ × Base × Obs) (h : P x) : P (cs.foldl (feed m buffered) x) :=
  feedAll_rule m buffered P (fun ch x h => pump_inv m P call _ (x.1, x.2.1.push ch, x.2.2) (push _ _ _ ch h)) cs x h

/-- `run a bs`: where the reference gets from `a` over `bs`; `abs s o`: the reference state a configuration
    stands for.  `call` does not say "the state is a function of the bytes consumed so far": mid-loop that
    is false of a layer that reads ahead (RFC 4571 holds several frames, handing up one per call), and a
    layer that has refused the stream never drains what is pending.  It says that a call leaves
    `run (abs ..) pend` — where the reference will end up — unchanged, and that when the loop stops the
    bytes still pending no longer move the reference. -/
structure Refines (m : Machine σ) (buffered : σ → Nat) (A : Type) where
  run  : A → Bytes → A
  abs  : σ → Obs → A
  Ok   : σ × Base × Obs → Prop
  μ    : σ × Base × Obs → Nat
  run_append : ∀ a x y, run a (x ++ y) = run (run a x) y
  call : ∀ x, Ok x → Ok (afterCall m x) ∧
    run (abs (afterCall m x).1 (afterCall m x).2.2) (afterCall m x).2.1.pend = run (abs x.1 x.2.2) x.2.1.pend ∧
    (callsAgain m (m.recv x.1 x.2.1) = true → μ (afterCall m x) < μ x) ∧
    (callsAgain m (m.recv x.1 x.2.1) = false →
      run (abs (afterCall m x).1 (afterCall m x).2.2) (afterCall m x).2.1.pend = abs (afterCall m x).1 (afterCall m x).2.2)
  push : ∀ s b o ch, Ok (s, b, o) → Ok (s, b.push ch, o) ∧ μ (s, b.push ch, o) < feedFuel (b.push ch) (buffered s)

namespace Refines
variable {m : Machine σ} {buffered : σ → Nat} {A : Type} (R : Refines m buffered A)

/-- between two `feed`s: the bytes still pending (if any) leave the reference where it is -/
def Quiet (x : σ × Base × Obs) : Prop := R.Ok x ∧ R.run (R.abs x.1 x.2.2) x.2.1.pend = R.abs x.1 x.2.2

theorem feed (x : σ × Base × Obs) (ch : Bytes) (h : R.Quiet x) :
    R.Quiet (Sock.feed m buffered x ch) ∧
    R.abs (Sock.feed m buffered x ch).1 (Sock.feed m buffered x ch).2.2 = R.run (R.abs x.1 x.2.2) ch := by
  obtain ⟨s, b, o⟩ := x
  obtain ⟨hok, hq⟩ := h
  obtain ⟨hok', hfuel⟩ := R.push s b o ch hok
  have hfin : R.run (R.abs s o) (b.push ch).pend = R.run (R.abs s o) ch := by
    simp only [Base.push, R.run_append]; rw [hq]
  -- through the loop the reference's destination stays `run (abs s o) ch`; at the end it is reached
  exact pump_rule m (fun x => R.Ok x ∧ R.run (R.abs x.1 x.2.2) x.2.1.pend = R.run (R.abs s o) ch)
    (fun x => R.Quiet x ∧ R.abs x.1 x.2.2 = R.run (R.abs s o) ch) R.μ
    (fun x ⟨hx, hf⟩ => by
      obtain ⟨c1, c2, c3, c4⟩ := R.call x hx
      exact ⟨fun ha => ⟨⟨c1, c2.trans hf⟩, c3 ha⟩, fun ha => ⟨⟨c1, c4 ha⟩, (c4 ha).symm.trans (c2.trans hf)⟩⟩)
    _ (s, b.push ch, o) ⟨hok', hfin⟩ hfuel

theorem feedAll (cs : List Bytes) : ∀ (x : σ × Base × Obs), R.Quiet x →
    R.Quiet (cs.foldl (Sock.feed m buffered) x) ∧
    R.abs (cs.foldl (Sock.feed m buffered) x).1 (cs.foldl (Sock.feed m buffered) x).2.2 =
      R.run (R.abs x.1 x.2.2) (x.2.1.pend ++ cs.flatten) := by
  induction cs with
  | nil => intro x h; exact ⟨h, by simpa using h.2.symm⟩
  | cons ch cs ih =>
    intro x h
    obtain ⟨f1, f2⟩ := R.feed x ch h
    obtain ⟨i1, i2⟩ := ih _ f1
    refine ⟨i1, ?_⟩
    rw [List.foldl_cons, i2, R.run_append, f1.2, f2, List.flatten_cons, R.run_append, R.run_append, h.2]

end Refines

theorem msgs_add (o : Obs) (r : Res) : (o.add r).msgs = o.msgs ++ r.up.map (·.data) := by
  simp [Obs.add, Obs.msgs]

theorem any_rets_add (o : Obs) (r : Res) (p : Int → Bool) : (o.add r).rets.any p = (o.rets.any p || p r.ret) := by
  simp [Obs.add, List.any_append]

end Nice.Props.C17
