/-
  What the sending half of `Nice.PTcp` (the FIN / RST markers of `queue`, `packet` .. `closedown`) does to the footprint:
  `SendRel`, once per function.  A condition about a socket that differs outside the footprint from the one of a hypothesis
  is closed by `mvcgen` itself.
-/
import Nice.Proofs.PTcpCore
namespace Nice.Proofs.PTcp
open Nice.PTcp Nice.Gen Std.Do

set_option mvcgen.warning false

theorem setState_eq {s s' : Sock} {n : TcpState} (h : setState s n = .ok s') : s' = { s with state := n } := by
  unfold setState at h
  rcases ite_ok h with ⟨e, h⟩ | ⟨_, h⟩
  · cases h; subst e; rfl
  · rcases ite_ok h with ⟨_, h⟩ | ⟨_, h⟩ <;> cases h
    rfl

theorem setStateClosed_eq {s s' : Sock} {e : Err} (h : setStateClosed s e = .ok s') :
    s' = { s with state := .closed, out := if e != .none then s.out.push (.closed e) else s.out } := by
  unfold setStateClosed at h
  obtain ⟨s1, h1, h⟩ := bind_ok h
  cases h
  rw [setState_eq h1]; rfl

theorem closedownNav_eq {s s' : Sock} {e : Err} (h : closedownNav s e = .ok s') :
    s' = { s with state := .closed, out := if e != .none then s.out.push (.closed e) else s.out } := by
  unfold closedownNav at h
  obtain ⟨s1, h1, h2⟩ := bind_ok h
  have nav : ∃ st, s1 = { s with state := st } := by
    cases hs : s.state <;> simp only [hs] at h1
    case listen | synSent | lastAck | timeWait | closed => cases h1; exact ⟨s.state, rfl⟩
    case finWait2 | closing | closeWait => exact ⟨_, setState_eq h1⟩
    case finWait1 =>
      obtain ⟨a, ha, h1⟩ := bind_ok h1
      exact ⟨_, by rw [setState_eq h1, setState_eq ha]⟩
    case synReceived | established =>
      obtain ⟨a, ha, h1⟩ := bind_ok h1
      obtain ⟨b, hb, h1⟩ := bind_ok h1
      exact ⟨_, by rw [setState_eq h1, setState_eq hb, setState_eq ha]⟩
  obtain ⟨st, rfl⟩ := nav
  exact (setStateClosed_eq h2).trans rfl

theorem queue_eq {s : Sock} {d : Array UInt8} {len : UInt32} {fl : UInt8} {r : UInt32 × Sock}
    (h : queue s d len fl = .ok r) :
    ∃ (len' : UInt32) (sl : List SSeg) (c : Nat) (sb : Fifo), len'.toNat ≤ len.toNat ∧
      s.sbuf.write d len'.toNat = .ok (c, sb) ∧ r = (UInt32.ofNat c, { s with slist := sl, sbuf := sb }) := by
  unfold queue at h
  obtain ⟨len', hl, h⟩ := bind_ok h
  obtain ⟨⟨c, sb⟩, hw, h⟩ := bind_ok h
  cases h
  refine ⟨len', _, c, sb, ?_, hw, rfl⟩
  rcases ite_ok hl with ⟨hgt, hl⟩ | ⟨_, hl⟩
  · rcases ite_ok hl with ⟨_, hl⟩ | ⟨_, hl⟩ <;> cases hl
    rw [UInt32.toNat_ofNat']
    exact Nat.le_trans (Nat.mod_le _ _) (Nat.le_of_lt hgt)
  · cases hl; exact Nat.le_refl _

theorem write0_eq {b b' : Fifo} {src : Array UInt8} {c : Nat} (h : b.write src 0 = .ok (c, b')) : b' = b := by
  obtain ⟨b1, hw, rfl⟩ := write_eq h
  rcases (writeOffset_eq hw).2 with ⟨_, rfl, rfl⟩ | ⟨_, hc, buf1, buf2, m1, m2, rfl⟩
  · rfl
  · obtain rfl : c = 0 := by rw [hc]; exact Nat.zero_min _
    simp only [Nat.zero_min, Fifo.memcpy, if_true] at m1 m2
    cases m1; cases m2; rfl

/-- keeps the callee opaque in a walk.  About `readOffset` only: stated of any program, `mvcgen` also matches the program
    being walked with it. -/
theorem readOffset_self (b : Fifo) (n off cap : Nat) :
    ⦃⌜True⌝⦄ b.readOffset n off cap ⦃⇓? r => ⌜b.readOffset n off cap = .ok r⌝⦄ := to_triple fun _ _ h => h

theorem sentEv_hdr (sb : Fifo) (una : UInt32) (s : Sock) (seq : UInt32) (fl : UInt8) (wnd : UInt16) (now : UInt32) :
    SentEv sb una (.packet (buildHeader s seq fl wnd now)) :=
  ⟨s, seq, fl, wnd, now, #[], (Array.append_empty ..).symm, .inl rfl⟩

theorem sentEv_data {sb : Fifo} {una : UInt32} (s : Sock) (seq : UInt32) (fl : UInt8) (wnd : UInt16) (now : UInt32)
    {len : UInt32} {cap : Nat} {pl : Array UInt8} (hl : (len != 0) = true) (hs : ¬ (pl.size != len.toNat) = true)
    (h : sb.readOffset len.toNat (seq - una).toNat cap = .ok pl) :
    SentEv sb una (.packet (buildHeader s seq fl wnd now ++ pl)) :=
  ⟨s, seq, fl, wnd, now, pl, rfl,
    .inr ⟨_, _, fun h0 => by simp [show len = 0 from UInt32.toNat_inj.mp h0] at hl, by simpa using hs, h⟩⟩

section
/- the walks start from a reference socket (`SendRel cl s0 ·` before and after) so that they compose -/
variable {cl : Prop} (s0 : Sock)

/-- every caller passes `off = seq - snd_una` -/
theorem packet_rel (s : Sock) (seq : UInt32) (fl : UInt8) (off len now : UInt32) :
    ⦃⌜SendRel cl s0 s ∧ (len ≠ 0 → off = seq - s0.snd_una)⌝⦄ packet s seq fl off len now ⦃⇓? r => ⌜SendRel cl s0 r.2⌝⦄ := by
  mvcgen [packet, readOffset_self]
  all_goals
    have ⟨h, hoff⟩ := ‹SendRel cl s0 s ∧ (len ≠ 0 → off = seq - s0.snd_una)›
    refine h.step (.inl rfl) (.inl rfl) fun e he => mem_push_of _ ?_ he
  -- the two branches that write a header alone (`len = 0`)
  case vc6 | vc7 => exact sentEv_hdr ..
  all_goals
    have hro : s.sbuf.readOffset _ _ _ = _ := ‹_›
    rw [hoff (by simpa using ‹(len != 0) = true›), show s.sbuf = s0.sbuf from h.sbuf] at hro
    exact sentEv_data s seq fl _ now ‹_› ‹_› hro

theorem packet0_rel (s : Sock) (seq : UInt32) (fl : UInt8) (now : UInt32) :
    ⦃⌜SendRel cl s0 s⌝⦄ packet s seq fl 0 0 now ⦃⇓? r => ⌜SendRel cl s0 r.2⌝⦄ :=
  fun h => packet_rel s0 s seq fl 0 0 now ⟨h, fun h => absurd rfl h⟩

theorem mssDownLoop_rel (fuel : Nat) (s : Sock) (n : UInt32) :
    ⦃⌜SendRel cl s0 s⌝⦄ mssDownLoop fuel s n ⦃⇓? r => ⌜SendRel cl s0 r.2.1⌝⦄ := by
  induction fuel generalizing s n with
  | zero => mvcgen [mssDownLoop]
  | succ k ih =>
    have h := fun i => triv_spec (pktMax i)
    mvcgen [mssDownLoop, h, ih]

theorem transmitLoop_rel (idx : Nat) (now : UInt32) (fuel : Nat) (s : Sock) (n : UInt32) :
    ⦃⌜SendRel cl s0 s⌝⦄ transmitLoop idx now fuel s n ⦃⇓? r => ⌜SendRel cl s0 r.2.1⌝⦄ := by
  induction fuel generalizing s n with
  | zero => mvcgen [transmitLoop]
  | succ k ih =>
    have h1 := packet_rel (cl := cl) s0
    have h2 := mssDownLoop_rel (cl := cl) s0
    mvcgen [transmitLoop, h1, h2, ih]
    rename_i h
    exact ⟨h, fun _ => by rw [show s.snd_una = s0.snd_una from h.snd_una]⟩

theorem transmit_rel (s : Sock) (idx : Nat) (now : UInt32) :
    ⦃⌜SendRel cl s0 s⌝⦄ transmit s idx now ⦃⇓? r => ⌜SendRel cl s0 r.2⌝⦄ := by
  have h1 := transmitLoop_rel (cl := cl) s0
  mvcgen [transmit, h1]

theorem adjustMTU_rel (s : Sock) : ⦃⌜SendRel cl s0 s⌝⦄ adjustMTU s ⦃⇓? s' => ⌜SendRel cl s0 s'⌝⦄ := by
  have h := fun m l f => triv_spec (adjustMTULevel m l f)
  mvcgen [adjustMTU, h]

/- Through the equation: `SendRel` does not hold of the states between the `set_state` steps (TIME-WAIT, ..), which are
   neither the old state nor CLOSED. -/
theorem closedownNav_rel (s : Sock) (e : Err) :
    ⦃⌜SendRel True s0 s⌝⦄ closedownNav s e ⦃⇓? s' => ⌜SendRel True s0 s'⌝⦄ :=
  to_triple fun h s' he => by
    rw [closedownNav_eq he]
    exact h.step (.inr ⟨trivial, rfl⟩) (.inl rfl) fun _ => mem_pushIf_of _ _ trivial

theorem attemptSendLoop_rel (now : UInt32) (fuel : Nat) (s : Sock) (sf : SendFlags) :
    ⦃⌜SendRel True s0 s⌝⦄ attemptSendLoop now fuel s sf ⦃⇓? s' => ⌜SendRel True s0 s'⌝⦄ := by
  induction fuel generalizing s sf with
  | zero => mvcgen [attemptSendLoop]
  | succ k ih =>
    have h1 := packet0_rel (cl := True) s0
    have h2 := transmit_rel (cl := True) s0
    have h3 := closedownNav_rel s0
    mvcgen [attemptSendLoop, h1, h2, h3, ih]

theorem attemptSend_rel (s : Sock) (sf : SendFlags) (clk : UInt32) :
    ⦃⌜SendRel True s0 s⌝⦄ attemptSend s sf clk ⦃⇓? s' => ⌜SendRel True s0 s'⌝⦄ := by
  have h := attemptSendLoop_rel s0
  mvcgen [attemptSend, h]

theorem queue0_rel (s : Sock) (fl : UInt8) :
    ⦃⌜SendRel cl s0 s⌝⦄ queue s #[] 0 fl ⦃⇓? r => ⌜SendRel cl s0 r.2⌝⦄ :=
  to_triple fun h r hq => by
    obtain ⟨len', sl, c, sb, hl, hw, rfl⟩ := queue_eq hq
    rw [Nat.le_zero.mp hl] at hw
    obtain rfl := write0_eq hw
    exact h

theorem queueFinMessage_rel (s : Sock) :
    ⦃⌜SendRel cl s0 s⌝⦄ queueFinMessage s ⦃⇓? s' => ⌜SendRel cl s0 s'⌝⦄ := by
  have h1 := queue0_rel (cl := cl) s0
  mvcgen [queueFinMessage, h1]

theorem queueRstMessage_rel (s : Sock) :
    ⦃⌜SendRel cl s0 s⌝⦄ queueRstMessage s ⦃⇓? s' => ⌜SendRel cl s0 s'⌝⦄ := by
  have h1 := queue0_rel (cl := cl) s0
  mvcgen [queueRstMessage, h1]

theorem closedown_rel (s : Sock) (e : Err) (src : ClosedownSource) (clk : UInt32) :
    ⦃⌜SendRel True s0 s⌝⦄ closedown s e src clk ⦃⇓? s' => ⌜SendRel True s0 s'⌝⦄ := by
  have h1 := queueRstMessage_rel (cl := True) s0
  have h2 := attemptSend_rel s0
  have h3 := closedownNav_rel s0
  mvcgen [closedown, h1, h2, h3]
  -- without FIN-ACK support a local close only sets the shutdown mode
  exact ‹SendRel True s0 s›.step (.inl rfl) (.inr ⟨trivial, rfl⟩) fun _ => .inl

end

theorem adjustMTU_sent {s s' : Sock} (h : adjustMTU s = .ok s') : SendRel False s s' :=
  of_triple_pre (adjustMTU_rel s s) (SendRel.refl _ s) s' h

theorem attemptSend_sent {s s' : Sock} {sf : SendFlags} {clk : UInt32} (h : attemptSend s sf clk = .ok s') :
    SendRel True s s' :=
  of_triple_pre (attemptSend_rel s s sf clk) (SendRel.refl _ s) s' h

theorem closedown_sent {s s' : Sock} {e : Err} {src : ClosedownSource} {clk : UInt32} (h : closedown s e src clk = .ok s') :
    SendRel True s s' :=
  of_triple_pre (closedown_rel s s e src clk) (SendRel.refl _ s) s' h

end Nice.Proofs.PTcp
