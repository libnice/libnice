/-
  Every loop of stunmessage.c / stunagent.c over the attributes steps the same way: type at `off`,
  length at `off + 2`, value, padding.  `Walk b pad L off as`: stepping so through `b` from `off` one
  arrives exactly at `L`, having seen the attributes `as`.  It is tied to `parseFrom` on a segment of the
  buffer (`parse_iff_walk`) and to `Tiles` (`tiles_iff_walk`); a property of a loop is one induction on it.
-/
import Nice.Proofs.StunBasic
namespace Nice.Stun
open Nice.Gen Nice.Spec.Stun

theorem parseFrom_short {pad : Bool} {off : Nat} : ∀ {l : B}, 0 < l.length → l.length < 4 →
    parseFrom pad off l = none
  | [], h, _ => by simp at h
  | [_], _, _ => by simp [parseFrom]
  | [_, _], _, _ => by simp [parseFrom]
  | [_, _, _], _, _ => by simp [parseFrom]
  | _ :: _ :: _ :: _ :: _, _, h => by simp at h; omega

theorem parseFrom_of_tiles {pad : Bool} {l : B} (ht : Tiles pad l) :
    ∀ off, ∃ attrs, parseFrom pad off l = some attrs := by
  induction ht with
  | nil => exact fun _ => ⟨[], by rw [parseFrom]⟩
  | cons t0 t1 l0 l1 val pd rest hv hp _ ih =>
    intro off
    rw [parseFrom]
    have hlen : be16 l0 l1 + padLen pad (be16 l0 l1) ≤ (val ++ (pd ++ rest)).length := by
      simp [hv, hp]
    rw [if_pos hlen]
    have hd : (val ++ (pd ++ rest)).drop (be16 l0 l1 + padLen pad (be16 l0 l1)) = rest := by
      rw [← List.append_assoc, List.drop_left' (by simp [hv, hp])]
    rw [hd]
    obtain ⟨as, has⟩ := ih (off + 4 + (be16 l0 l1 + padLen pad (be16 l0 l1)))
    rw [has]
    exact ⟨_, rfl⟩

theorem tiles_of_parse {pad : Bool} {off : Nat} {l : B} : ∀ as, parseFrom pad off l = some as → Tiles pad l := by
  fun_induction parseFrom pad off l with
  | case1 => exact fun _ _ => Tiles.nil
  | case2 off t0 t1 l0 l1 rest n step hle as' hrec ih =>
    intro _ _
    -- value, padding and remainder are cut out of `rest` by length
    have := Tiles.cons (padded := pad) t0 t1 l0 l1 (rest.take n) ((rest.drop n).take (padLen pad n)) _
      (by simp [n]; omega) (by simp [n, step] at hle ⊢; omega) (ih _ hrec)
    rwa [← List.drop_drop, List.take_append_drop, List.take_append_drop] at this
  | case3 => exact fun _ h => by cases h
  | case4 => exact fun _ h => by cases h
  | case5 => exact fun _ h => by cases h

theorem tiles_iff_parse (pad : Bool) (off : Nat) (l : B) :
    Tiles pad l ↔ ∃ as, parseFrom pad off l = some as :=
  ⟨fun h => parseFrom_of_tiles h off, fun ⟨as, h⟩ => tiles_of_parse as h⟩

theorem Tiles.append {p : Bool} {l1 l2 : B} (h1 : Tiles p l1) (h2 : Tiles p l2) : Tiles p (l1 ++ l2) := by
  induction h1 with
  | nil => simpa using h2
  | cons t0 t1 l0 l1' val pd rest hv hp _ ih =>
    have : t0 :: t1 :: l0 :: l1' :: (val ++ (pd ++ rest)) ++ l2 =
        t0 :: t1 :: l0 :: l1' :: (val ++ (pd ++ (rest ++ l2))) := by simp
    rw [this]
    exact Tiles.cons _ _ _ _ _ _ _ hv hp ih

theorem Tiles.single (p : Bool) (t0 t1 l0 l1 : UInt8) (val pd : B)
    (hv : val.length = be16 l0 l1) (hp : pd.length = padLen p (be16 l0 l1)) :
    Tiles p (t0 :: t1 :: l0 :: l1 :: (val ++ pd)) := by
  have := Tiles.cons (padded := p) t0 t1 l0 l1 val pd [] hv hp Tiles.nil
  simpa using this

theorem parseFrom_seg {b : Bytes} {pad : Bool} {off len : Nat} (hb : off + len ≤ b.size) (h4 : 4 ≤ len) :
    parseFrom pad off (seg b off len) =
      if getwN b (off + 2) + padLen pad (getwN b (off + 2)) ≤ len - 4 then
        (parseFrom pad (off + 4 + (getwN b (off + 2) + padLen pad (getwN b (off + 2))))
          (seg b (off + 4 + (getwN b (off + 2) + padLen pad (getwN b (off + 2))))
            (len - 4 - (getwN b (off + 2) + padLen pad (getwN b (off + 2)))))).map
          (⟨getwN b off, off + 4, getwN b (off + 2)⟩ :: ·)
      else none := by
  have e1 : be16 (b.getD off 0) (b.getD (off + 1) 0) = getwN b off := rfl
  have e2 : be16 (b.getD (off + 2) 0) (b.getD (off + 3) 0) = getwN b (off + 2) := rfl
  rw [seg4 (by omega) h4, parseFrom]
  simp only [e1, e2, seg_length (show off + 4 + (len - 4) ≤ b.size by omega), seg_drop]
  split
  · generalize parseFrom pad _ _ = r
    cases r <;> rfl
  · rfl

/-- `cons`: the attribute at `off` ends at or before `L`, and the walk goes on behind it -/
inductive Walk (b : Bytes) (pad : Bool) (L : Nat) : Nat → List Attr → Prop
  | nil : Walk b pad L L []
  | cons {off : Nat} {as : List Attr} :
      off + 4 + (getwN b (off + 2) + padLen pad (getwN b (off + 2))) ≤ L →
      Walk b pad L (off + 4 + (getwN b (off + 2) + padLen pad (getwN b (off + 2)))) as →
      Walk b pad L off (⟨getwN b off, off + 4, getwN b (off + 2)⟩ :: as)

namespace Walk
variable {b b' : Bytes} {pad : Bool} {L M off : Nat} {as bs : List Attr}

theorem le (h : Walk b pad L off as) : off ≤ L := by
  induction h with
  | nil => exact Nat.le_refl _
  | cons _ _ ih => omega

theorem inside (h : Walk b pad L off as) :
    ∀ x ∈ as, off + 4 ≤ x.off ∧ x.off + x.len ≤ L ∧ x.len < 65536 := by
  induction h with
  | nil => intro x hx; cases hx
  | @cons off as hle hw ih =>
    intro x hx
    cases hx with
    | head => exact ⟨Nat.le_refl _, by simp only; omega, getwN_lt _ _⟩
    | tail _ hx' => have := ih x hx'; omega

theorem append (h1 : Walk b pad M off as) (h2 : Walk b pad L M bs) : Walk b pad L off (as ++ bs) := by
  induction h1 with
  | nil => exact h2
  | cons hle _ ih => exact Walk.cons (Nat.le_trans hle h2.le) ih

theorem congr (h : Walk b pad L off as) (hb : ∀ j, off ≤ j → j < L → b'.getD j 0 = b.getD j 0) :
    Walk b' pad L off as := by
  induction h with
  | nil => exact Walk.nil
  | @cons off as hle hw ih =>
    have e1 : getwN b' off = getwN b off := getwN_congr (hb _ (by omega) (by omega)) (hb _ (by omega) (by omega))
    have e2 : getwN b' (off + 2) = getwN b (off + 2) :=
      getwN_congr (hb _ (by omega) (by omega)) (hb _ (by omega) (by omega))
    have := Walk.cons (b := b') (by rw [e2]; exact hle) (by rw [e2]; exact ih fun j h1 h2 => hb j (by omega) h2)
    rwa [e1, e2] at this

end Walk

theorem walk_of_parse {b : Bytes} {pad : Bool} {L len off : Nat} {as : List Attr} (hL : L ≤ b.size)
    (hoff : off + len = L) (h : parseFrom pad off (seg b off len) = some as) : Walk b pad L off as := by
  induction len using Nat.strongRecOn generalizing off as with
  | ind len ih =>
    by_cases h0 : len = 0
    · subst h0
      rw [seg_zero, parseFrom] at h
      cases h
      rw [← hoff]; exact Walk.nil
    · by_cases h4 : len < 4
      · rw [parseFrom_short (by rw [seg_length (by omega)]; omega) (by rw [seg_length (by omega)]; exact h4)] at h
        cases h
      · rw [parseFrom_seg (by omega) (by omega)] at h
        split at h
        · cases hrec : parseFrom pad (off + 4 + (getwN b (off + 2) + padLen pad (getwN b (off + 2))))
              (seg b (off + 4 + (getwN b (off + 2) + padLen pad (getwN b (off + 2))))
                (len - 4 - (getwN b (off + 2) + padLen pad (getwN b (off + 2))))) with
          | none => rw [hrec] at h; cases h
          | some as' =>
            rw [hrec] at h
            cases h
            exact Walk.cons (by omega) (ih _ (by omega) (by omega) hrec)
        · cases h

theorem parse_of_walk {b : Bytes} {pad : Bool} {L off : Nat} {as : List Attr} (hL : L ≤ b.size)
    (h : Walk b pad L off as) : parseFrom pad off (seg b off (L - off)) = some as := by
  induction h with
  | nil => rw [Nat.sub_self, seg_zero, parseFrom]
  | @cons off as hle hw ih =>
    rw [parseFrom_seg (by omega) (by omega), if_pos (by omega)]
    have e : L - off - 4 - (getwN b (off + 2) + padLen pad (getwN b (off + 2))) =
        L - (off + 4 + (getwN b (off + 2) + padLen pad (getwN b (off + 2)))) := by omega
    rw [e, ih]; rfl

theorem parse_iff_walk {b : Bytes} {pad : Bool} {L off : Nat} {as : List Attr} (hL : L ≤ b.size)
    (ho : off ≤ L) : parseFrom pad off (seg b off (L - off)) = some as ↔ Walk b pad L off as :=
  ⟨walk_of_parse hL (by omega), parse_of_walk hL⟩

theorem tiles_iff_walk {b : Bytes} {pad : Bool} {L off : Nat} (hL : L ≤ b.size) (ho : off ≤ L) :
    Tiles pad (seg b off (L - off)) ↔ ∃ as, Walk b pad L off as := by
  rw [tiles_iff_parse pad off]
  exact exists_congr fun as => parse_iff_walk hL ho

end Nice.Stun
