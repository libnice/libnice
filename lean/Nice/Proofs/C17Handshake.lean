/- C17: what follows a whole reply stays pending; the SOCKS5 / pseudo-SSL handshake call does not look at it -/
import Nice.Proofs.C17Base
namespace Nice.Props.C17
open Nice.Sock Nice.Drv

/-- where a base socket can end up after a handshake call: as the read left it (`B'`), possibly freed -/
def After (B' : Base) (x : Base) : Prop := x = B' ∨ x = { B' with freed := true }

/-- the complete reply the client reads in one call of a handshake state: 2 bytes (method / auth), or
    a 4-byte CONNECT head that is refused (the accepted head continues with a second read for the
    bound address, which must already be pending — `C17_socks5_split_dependent`) -/
def Socks5.WholeReply (s : Nice.Socks5.St) (r : Bytes) : Prop :=
  (s.state = .init ∧ r.length = 2) ∨ (s.state = .auth ∧ r.length = 2) ∨
  (s.state = .connect ∧ r.length = 4 ∧
    ¬ (r.getD 0 0 = 5 ∧ r.getD 1 0 = 0 ∧ r.getD 2 0 = 0 ∧ (r.getD 3 0 = 1 ∨ r.getD 3 0 = 4)))

/-- a call's result with `rest` left pending -/
def putBack {σ : Type} (rest : Bytes) (x : Res × σ × Base) : Res × σ × Base := (x.1, x.2.1, { x.2.2 with pend := rest })

/-- both sides read exactly `r`; afterwards `recv` never looks at `pend`; `apply_ite (putBack rest)` pushes `putBack` through the branches -/
theorem socks5_whole_reply (s : Nice.Socks5.St) (b : Base) (hb : Base.Healthy b) (r : Bytes) (hw : Socks5.WholeReply s r)
    (rest : Bytes) :
    Nice.Socks5.recv s { b with pend := r ++ rest } = putBack rest (Nice.Socks5.recv s { b with pend := r }) := by
  obtain ⟨pd, er, ef, fr⟩ := b
  obtain ⟨rfl, rfl, rfl⟩ : er = false ∧ ef = false ∧ fr = false := hb
  have hread := fun n => read_whole _ r rest n rfl
  have hread0 := fun n => read_whole r r [] n (List.append_nil r).symm
  have h1 : ¬ ((1 : Int) ≤ 0) := by decide
  rcases hw with ⟨hst, hl⟩ | ⟨hst, hl⟩ | ⟨hst, hl, hbad⟩
  iterate 2
    simp only [Nice.Socks5.recv, hst, Bool.false_eq_true, ↓reduceIte, hread 2 hl (by decide), hread0 2 hl (by decide),
      fixedBuf_exact r 2 stackJunk hl, h1, Nice.Socks5.fail, Nice.Socks5.sendConnect, flushDown, apply_ite (putBack rest)]
    rfl
  · have c3 : (r.getD 0 0 == 5) = true → (r.getD 1 0 == 0) = true → (r.getD 2 0 == 0) = true →
        (r.getD 3 0 == 1 || r.getD 3 0 == 4) = false := fun c0 c1 c2 => by
      have := fun h => hbad ⟨by simpa using c0, by simpa using c1, by simpa using c2, h⟩
      simpa using this
    simp only [Nice.Socks5.recv, hst, Bool.false_eq_true, ↓reduceIte, hread 4 hl (by decide), hread0 4 hl (by decide),
      fixedBuf_exact r 4 stackJunk hl, h1, Nice.Socks5.fail, apply_ite (putBack rest)]
    by_cases c0 : (r.getD 0 0 == 5) = true <;> simp only [c0, Bool.false_eq_true, ↓reduceIte]
    · by_cases c1 : (r.getD 1 0 == 0) = true <;> simp only [c1, Bool.false_eq_true, ↓reduceIte]
      · by_cases c2 : (r.getD 2 0 == 0) = true <;> simp only [c2, Bool.false_eq_true, ↓reduceIte]
        · simp only [c3 c0 c1 c2, Bool.false_eq_true, ↓reduceIte]; rfl
        · rfl
      · rfl
    · rfl

theorem pssl_whole_hello (s : Nice.PseudoSsl.St) (hs : s.handshaken = false) (b : Base) (hb : Base.Healthy b) (r : Bytes)
    (hr : r.length = (Nice.PseudoSsl.serverHello s.compat).length) (rest : Bytes) :
    Nice.PseudoSsl.recv s { b with pend := r ++ rest } = putBack rest (Nice.PseudoSsl.recv s { b with pend := r }) := by
  have hpos : 0 < (Nice.PseudoSsl.serverHello s.compat).length := by cases s.compat <;> decide
  obtain ⟨pd, er, ef, fr⟩ := b
  obtain ⟨rfl, rfl, rfl⟩ : er = false ∧ ef = false ∧ fr = false := hb
  have h1 : ¬ ((1 : Int) ≤ 0) := by decide
  simp only [Nice.PseudoSsl.recv, hs, Bool.false_eq_true, ↓reduceIte, read_whole _ r rest _ rfl hr hpos,
    read_whole r r [] _ (List.append_nil r).symm hr hpos, h1, flushDown, apply_ite (putBack rest)]
  rfl

end Nice.Props.C17
