/-
  What the typed appends store is what the typed accessors decode: one fact per kind of value.
-/
import Nice.Proofs.StunAppend
namespace Nice.Stun
open Nice.Gen Nice.Spec.Stun

theorem be32_roundtrip (v : UInt32) : be32 (be32Bytes v) = v := by
  unfold be32 be32Bytes
  apply UInt32.toNat_inj.mp
  simp only [Array.getD_eq_getD_getElem?, List.getElem?_toArray, List.getElem?_cons_zero, List.getElem?_cons_succ,
    Option.getD_some, UInt32.toNat_ofNat', UInt8.toNat_ofNat']
  have := v.toNat_lt
  omega

theorem be64_roundtrip (v : UInt64) :
    UInt64.ofNat ((UInt32.ofNat (v.toNat / 4294967296)).toNat * 4294967296 + (UInt32.ofNat v.toNat).toNat) = v := by
  apply UInt64.toNat_inj.mp
  simp only [UInt64.toNat_ofNat', UInt32.toNat_ofNat']
  have := v.toNat_lt
  omega

theorem port_roundtrip (p : UInt16) : be16v (UInt8.ofNat (p.toNat / 256)) (UInt8.ofNat p.toNat) = p := by
  unfold be16v
  apply UInt16.toNat_inj.mp
  simp only [UInt16.toNat_ofNat', UInt8.toNat_ofNat']
  have := p.toNat_lt
  omega

theorem takeZ_self (ip : Bytes) (n : Nat) (h : ip.size = n) : takeZ ip n = ip := by
  apply Array.ext
  · simp [takeZ, h]
  · intro i h1 h2
    simp [takeZ, Array.getD_eq_getD_getElem?, Array.getElem?_eq_getElem h2]

theorem encodeAddr_facts (family : UInt8) (port : UInt16) (ip : Bytes) :
    (encodeAddr family port ip).size = 4 + ip.size ∧
    (encodeAddr family port ip).getD 1 0 = family ∧
    ((encodeAddr family port ip).extract 2 (2 + 2)).getD 0 0 = UInt8.ofNat (port.toNat / 256) ∧
    ((encodeAddr family port ip).extract 2 (2 + 2)).getD 1 0 = UInt8.ofNat port.toNat ∧
    (encodeAddr family port ip).extract 4 (4 + ip.size) = ip := by
  refine ⟨by simp [encodeAddr], ?_, ?_, ?_, ?_⟩
  · simp [encodeAddr, Array.getD_eq_getD_getElem?, Array.getElem?_append]
  · simp [encodeAddr, Array.getD_eq_getD_getElem?]
  · simp [encodeAddr, Array.getD_eq_getD_getElem?]
  · apply Array.ext
    · simp [encodeAddr]
    · intro i h1 h2
      simp [encodeAddr]

/-- `stun_message_find_addr` on a found attribute that holds a well-formed address value -/
theorem findAddr_of_found (a : Option Cfg) (b' : Bytes) (t : UInt16) (off : Nat) (family : UInt8)
    (port : UInt16) (ip : Bytes) (hfam : (family = 1 ∧ ip.size = 4) ∨ (family = 2 ∧ ip.size = 16))
    (hfind : find a b' t = .ok (some (off, UInt16.ofNat (4 + ip.size))))
    (hrd : rdBytes b' off (4 + ip.size) = .ok (encodeAddr family port ip)) :
    findAddr a b' t sizeofStorage =
      .ok (.success, some ⟨if family = 1 then 4 else 6, port, ip⟩,
        if family = 1 then sizeofSockaddr else sizeofSockaddrIn6) := by
  obtain ⟨hsz, hd1, hp0, hp1, hipx⟩ := encodeAddr_facts family port ip
  generalize encodeAddr family port ip = d at *
  unfold findAddr
  rw [hfind]
  simp only
  rcases hfam with ⟨hf, hip⟩ | ⟨hf, hip⟩
  · subst hf
    rw [hip] at hrd hipx ⊢
    rw [if_neg (by decide), rd_of_rdBytes hrd (i := 1) (by decide), hd1]
    simp only
    rw [if_pos (by decide), if_neg (by decide),
      rdBytes_sub hrd (k := 2) (m := 2) (by decide), rdBytes_sub hrd (k := 4) (m := 4) (by decide)]
    simp only
    rw [hp0, hp1, hipx, port_roundtrip]
    rfl
  · subst hf
    rw [hip] at hrd hipx ⊢
    rw [if_neg (by decide), rd_of_rdBytes hrd (i := 1) (by decide), hd1]
    simp only
    rw [if_neg (by decide), if_pos (by decide), if_neg (by decide),
      rdBytes_sub hrd (k := 2) (m := 2) (by decide), rdBytes_sub hrd (k := 4) (m := 16) (by decide)]
    simp only
    rw [hp0, hp1, hipx, port_roundtrip]
    rfl

theorem xorBytes_xorBytes (x k : Bytes) : xorBytes (xorBytes x k) k = x := by
  apply Array.ext
  · simp [xorBytes]
  · intro i h1 h2
    simp [xorBytes, UInt8.xor_assoc]

/-- class and number of a code 300..699 pass the range test of `stun_message_find_error` and spell it again -/
theorem errorCode_roundtrip {code : Nat} (h : 300 ≤ code ∧ code ≤ 699) :
    (UInt8.ofNat (code / 100) &&& 7 < 3 || UInt8.ofNat (code / 100) &&& 7 > 6 || UInt8.ofNat (code % 100) > 99) = false ∧
    (UInt8.ofNat (code / 100) &&& 7).toNat * 100 + (UInt8.ofNat (code % 100)).toNat = code := by
  have hc1 : (UInt8.ofNat (code / 100) &&& 7).toNat = code / 100 := by
    rw [UInt8.toNat_and, UInt8.toNat_ofNat']
    have e7 : (7 : UInt8).toNat = 2 ^ 3 - 1 := by decide
    rw [e7, Nat.and_two_pow_sub_one_eq_mod]
    omega
  have hc2 : (UInt8.ofNat (code % 100)).toNat = code % 100 := by
    rw [UInt8.toNat_ofNat']; omega
  refine ⟨?_, by rw [hc1, hc2]; omega⟩
  rw [Bool.eq_false_iff]
  simp only [ne_eq, Bool.or_eq_true, decide_eq_true_eq, UInt8.lt_iff_toNat_lt, GT.gt]
  rw [hc1, hc2]
  show ¬ ((code / 100 < 3 ∨ 6 < code / 100) ∨ 99 < code % 100)
  omega

end Nice.Stun
