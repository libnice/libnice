/-
  The two length validators against the grammar.  The full validator's attribute loop and `parseFrom` run in
  parallel (`walkAttrs_eq`); the vectored pre-check sees its buffers only through their concatenation
  (`skipBytes_locates`).  Both get a closed form over one header verdict (`headVerdict`), read against the grammar.
-/
import Nice.Proofs.StunWalk
namespace Nice.Stun
open Nice.Gen Nice.Spec.Stun

theorem walkAttrs_eq {b : Bytes} (pad : Bool) : ∀ len off, off + len ≤ b.size →
    walkAttrs b pad off len = .ok (parseFrom pad off (seg b off len)).isSome := by
  intro len
  induction len using Nat.strongRecOn with
  | ind len ih =>
    intro off hb
    rw [walkAttrs]
    by_cases h0 : len = 0
    · subst h0; rw [if_pos rfl, seg_zero, parseFrom]; rfl
    · by_cases h4 : len < 4
      · rw [if_neg h0, if_pos h4, parseFrom_short (by rw [seg_length hb]; omega) (by rw [seg_length hb]; exact h4)]
        rfl
      · rw [if_neg h0, if_neg h4, getw_eq (by simp [STUN_ATTRIBUTE_TYPE_LEN]; omega), parseFrom_seg hb (by omega)]
        simp only [getwN_ofNat, walk_step pad _ (getwN_lt _ _), STUN_ATTRIBUTE_TYPE_LEN]
        split
        · rw [if_neg (by omega)]; rfl
        · rw [if_pos (by omega), ih _ (by omega) _ (by omega), Option.isSome_map]

/-- concatenation of a list of buffers -/
def FL (l : List Bytes) : List UInt8 := l.flatMap Array.toList

theorem FL_drop_step {bs : Array Bytes} {i : Nat} (h : i < bs.size) :
    FL (bs.toList.drop i) = bs[i].toList ++ FL (bs.toList.drop (i + 1)) := by
  have : i < bs.toList.length := by simpa using h
  rw [List.drop_eq_getElem_cons this]
  simp [FL]

theorem FL_drop_end {bs : Array Bytes} {i : Nat} (h : bs.size ≤ i) : FL (bs.toList.drop i) = [] := by
  rw [List.drop_eq_nil_of_le (by simpa using h)]; rfl

theorem toList_nil_of_size {b : Bytes} (h : b.size = 0) : b.toList = [] :=
  List.eq_nil_of_length_eq_zero (by simpa using h)

theorem skipEmpty_spec (bs : Array Bytes) (i : Nat) :
    (skipEmpty bs i = none → FL (bs.toList.drop i) = []) ∧
    (∀ s, skipEmpty bs i = some s →
      ∃ hs : s < bs.size, i ≤ s ∧ bs[s].size ≠ 0 ∧ FL (bs.toList.drop i) = FL (bs.toList.drop s)) := by
  fun_induction skipEmpty bs i with
  | case1 i hlt he ih =>
    have hstep : FL (bs.toList.drop i) = FL (bs.toList.drop (i + 1)) := by
      rw [FL_drop_step hlt, toList_nil_of_size (by simpa using he), List.nil_append]
    refine ⟨fun h => hstep ▸ ih.1 h, fun s h => ?_⟩
    obtain ⟨hs, hle, hne, hfl⟩ := ih.2 s h
    exact ⟨hs, by omega, hne, hstep ▸ hfl⟩
  | case2 i hlt he =>
    exact ⟨fun h => (by cases h), fun s h => by cases h; exact ⟨hlt, Nat.le_refl _, by simpa using he, rfl⟩⟩
  | case3 i hge => exact ⟨fun _ => FL_drop_end (by omega), fun s h => by cases h⟩

theorem skipBytes_spec (bs : Array Bytes) (i skip : Nat) (hi : i ≤ bs.size) :
    (skipBytes bs i skip).1 ≤ bs.size ∧
    (FL (bs.toList.drop i)).drop skip =
      (FL (bs.toList.drop (skipBytes bs i skip).1)).drop (skipBytes bs i skip).2 ∧
    (∀ h : (skipBytes bs i skip).1 < bs.size, (skipBytes bs i skip).2 < bs[(skipBytes bs i skip).1].size) := by
  fun_induction skipBytes bs i skip with
  | case1 i skip hlt hle ih =>
    obtain ⟨h1, h2, h3⟩ := ih (by omega)
    refine ⟨h1, ?_, h3⟩
    rw [← h2, FL_drop_step hlt, List.drop_append, List.drop_eq_nil_of_le (by simpa using hle)]
    simp
  | case2 i skip hlt hle => exact ⟨hi, rfl, fun _ => by simp only; omega⟩
  | case3 i skip hge => exact ⟨hi, rfl, fun h => absurd h hge⟩

theorem nextNonEmpty_spec (bs : Array Bytes) (j : Nat) (hj : j ≤ bs.size) :
    nextNonEmpty bs j ≤ bs.size ∧ FL (bs.toList.drop j) = FL (bs.toList.drop (nextNonEmpty bs j)) ∧
    (∀ h : nextNonEmpty bs j < bs.size, bs[nextNonEmpty bs j].size ≠ 0) := by
  fun_induction nextNonEmpty bs j with
  | case1 j hlt he ih =>
    obtain ⟨h1, h2, h3⟩ := ih (by omega)
    exact ⟨h1, by rw [FL_drop_step hlt, toList_nil_of_size (by simpa using he), List.nil_append]; exact h2, h3⟩
  | case2 j hlt he => exact ⟨hj, rfl, fun _ => by simpa using he⟩
  | case3 j hge => exact ⟨hj, rfl, fun h => absurd h hge⟩

/-- where `skipBytes` stops: behind byte `skip` of the concatenation come the rest of that buffer and the later ones -/
theorem skipBytes_locates (bs : Array Bytes) (skip : Nat) (h : skip < (FL bs.toList).length) :
    ∃ hi : (skipBytes bs 0 skip).1 < bs.size, (skipBytes bs 0 skip).2 < bs[(skipBytes bs 0 skip).1].size ∧
      (FL bs.toList).drop skip = bs[(skipBytes bs 0 skip).1].toList.drop (skipBytes bs 0 skip).2 ++
        FL (bs.toList.drop ((skipBytes bs 0 skip).1 + 1)) := by
  obtain ⟨h1, h2, h3⟩ := skipBytes_spec bs 0 skip (Nat.zero_le _)
  generalize skipBytes bs 0 skip = r at h1 h2 h3 ⊢
  rw [List.drop_zero] at h2
  have hi : r.1 < bs.size := by
    apply Nat.lt_of_not_le; intro hge
    rw [FL_drop_end hge, List.drop_nil] at h2
    have := congrArg List.length h2
    simp at this; omega
  refine ⟨hi, h3 hi, ?_⟩
  rw [h2, FL_drop_step hi, List.drop_append_of_le_length (by simpa using Nat.le_of_lt (h3 hi))]

theorem nextNonEmpty_locates (bs : Array Bytes) (i : Nat) (hi : i ≤ bs.size) (h : FL (bs.toList.drop i) ≠ []) :
    ∃ hj : nextNonEmpty bs i < bs.size, bs[nextNonEmpty bs i].size ≠ 0 ∧
      FL (bs.toList.drop i) = bs[nextNonEmpty bs i].toList ++ FL (bs.toList.drop (nextNonEmpty bs i + 1)) := by
  obtain ⟨_, h2, h3⟩ := nextNonEmpty_spec bs i hi
  generalize nextNonEmpty bs i = j at h2 h3 ⊢
  have hj : j < bs.size := by
    apply Nat.lt_of_not_le; intro hge
    rw [h2, FL_drop_end hge] at h; exact h rfl
  exact ⟨hj, h3 hj, by rw [h2, FL_drop_step hj]⟩

def byteL (l : List UInt8) (i : Nat) : Nat := (l.getD i 0).toNat

theorem byteL_append_left {a r : List UInt8} {i : Nat} (h : i < a.length) :
    byteL (a ++ r) i = byteL a i := by
  simp [byteL, List.getD_eq_getElem?_getD, List.getElem?_append_left h]

theorem byteL_append_right {a r : List UInt8} {i : Nat} (h : a.length ≤ i) :
    byteL (a ++ r) i = byteL r (i - a.length) := by
  simp [byteL, List.getD_eq_getElem?_getD, List.getElem?_append_right h]

theorem byteL_drop (l : List UInt8) (k i : Nat) : byteL (l.drop k) i = byteL l (k + i) := by
  simp [byteL, List.getD_eq_getElem?_getD, List.getElem?_drop]

theorem byteN_eq_byteL (b : Bytes) (i : Nat) : byteN b i = byteL b.toList i := by
  simp [byteN, byteL, List.getD_eq_getElem?_getD, Array.getD_eq_getD_getElem?]

def headVerdict (l : List UInt8) (pad : Bool) : LenRes :=
  if l.length = 0 then .invalid
  else if byteL l 0 / 64 ≠ 0 then .invalid
  else if l.length < 4 then .incomplete
  else
    let L := byteL l 2 * 256 + byteL l 3 + 20
    if pad = true ∧ L % 4 ≠ 0 then .invalid
    else if l.length < L then .incomplete
    else .len L

theorem readLenField_eq (bs : Array Bytes) (h0 : 0 < bs.size) (hf : 4 ≤ (FL bs.toList).length) :
    readLenField bs h0 = .ok (byteL (FL bs.toList) 2 * 256 + byteL (FL bs.toList) 3) := by
  unfold readLenField
  rw [show STUN_MESSAGE_LENGTH_POS = 2 from rfl, show STUN_MESSAGE_LENGTH_LEN = 2 from rfl]
  split
  · have hf0 : FL bs.toList = bs[0].toList ++ FL (bs.toList.drop 1) := by
      simpa using FL_drop_step (bs := bs) (i := 0) h0
    rw [getw_eq (by omega)]
    simp only [Except.map, getwN_ofNat]
    rw [hf0, byteL_append_left (by simp; omega), byteL_append_left (by simp; omega)]
    simp [getwN, byteN_eq_byteL]
  · -- slow path: byte 2 is in buffer `r.1` at `r.2`; byte 3 follows there or opens the next non-empty one
    simp only
    obtain ⟨hr1, hr2, hD⟩ := skipBytes_locates bs 2 (by omega)
    generalize skipBytes bs 0 2 = r at hr1 hr2 hD ⊢
    have hb2 : byteL (FL bs.toList) 2 = byteN bs[r.1] r.2 := by
      have := byteL_drop (FL bs.toList) 2 0
      rw [hD, byteL_append_left (by simp; omega), byteL_drop, ← byteN_eq_byteL] at this
      exact this.symm
    have hb3 := byteL_drop (FL bs.toList) 2 1
    rw [hD] at hb3
    rw [dif_pos hr1, hb2, ← hb3]
    split
    · rw [getw_eq (by omega)]
      simp only [Except.map, getwN_ofNat]
      rw [byteL_append_left (by simp; omega), byteL_drop, ← byteN_eq_byteL]
      rfl
    · rw [rd_eq hr2]
      simp only
      have hrest : FL (bs.toList.drop (r.1 + 1)) ≠ [] := by
        intro hnil
        have := congrArg List.length hD
        rw [hnil] at this; simp at this; omega
      obtain ⟨hj, hjne, hR⟩ := nextNonEmpty_locates bs (r.1 + 1) (by omega) hrest
      generalize nextNonEmpty bs (r.1 + 1) = j at hj hjne hR ⊢
      rw [dif_pos hj, rd_eq (by omega)]
      simp only
      have e : 1 - (bs[r.1].toList.drop r.2).length = 0 := by simp; omega
      rw [byteL_append_right (by simp; omega), e, hR, byteL_append_left (by simp; omega), ← byteN_eq_byteL,
        shl8_or _ _ (by simpa using (bs[j].getD 0 0).toNat_lt)]
      rfl

theorem shr6 (b : UInt8) : (b >>> 6 != 0) = decide (b.toNat / 64 ≠ 0) := by
  have h : (b >>> 6).toNat = b.toNat / 64 := by
    rw [UInt8.toNat_shiftRight]; simp [Nat.shiftRight_eq_div_pow]
  by_cases hz : b.toNat / 64 = 0
  · have : b >>> 6 = 0 := UInt8.toNat_inj.mp (by rw [h, hz]; rfl)
    simp [this, hz]
  · have : b >>> 6 ≠ 0 := fun hc => hz (by rw [← h, hc]; rfl)
    simp [this, hz]

theorem validateFastHead_eq (bs : Array Bytes) (pad : Bool) (h0 : 0 < bs.size) (hne : bs[0].size ≠ 0) :
    validateFastHead bs (FL bs.toList).length pad = .ok (headVerdict (FL bs.toList) pad) := by
  -- once byte 0 and the length field are read through `FL` (`hb0`, `readLenField_eq`) both sides are the same chain of tests
  have hf0 : FL bs.toList = bs[0].toList ++ FL (bs.toList.drop 1) := by
    simpa using FL_drop_step (bs := bs) (i := 0) h0
  have hlen : (FL bs.toList).length ≠ 0 := by
    rw [hf0]; simp only [List.length_append, Array.length_toList]; omega
  have hb0 : byteL (FL bs.toList) 0 = (bs[0].getD 0 0).toNat := by
    rw [hf0, byteL_append_left (by simp; omega), ← byteN_eq_byteL]; rfl
  unfold validateFastHead headVerdict
  rw [dif_pos h0, rd_eq (by omega), if_neg hlen, show STUN_MESSAGE_LENGTH_POS = 2 from rfl,
    show STUN_MESSAGE_LENGTH_LEN = 2 from rfl, show STUN_MESSAGE_HEADER_LENGTH = 20 from rfl]
  simp only [shr6, hb0, decide_eq_true_eq]
  by_cases hz : (bs[0].getD 0 0).toNat / 64 ≠ 0
  · rw [if_pos hz, if_pos hz]
  rw [if_neg hz, if_neg hz]
  by_cases h4 : (FL bs.toList).length < 4
  · rw [if_pos h4, if_pos h4]
  rw [if_neg h4, if_neg h4, readLenField_eq bs h0 (by omega)]
  simp only
  have hL : byteL (FL bs.toList) 2 * 256 + byteL (FL bs.toList) 3 + 20 < 2 ^ 64 := by
    have := (List.getD (FL bs.toList) 2 0).toNat_lt
    have := (List.getD (FL bs.toList) 3 0).toNat_lt
    simp only [byteL]; omega
  rw [paddingN_eq _ hL]
  generalize byteL (FL bs.toList) 2 * 256 + byteL (FL bs.toList) 3 + 20 = L
  have hpad : ((pad && (4 - L % 4) % 4 != 0) = true) ↔ (pad = true ∧ L % 4 ≠ 0) := by
    cases pad
    · simp
    · simp; omega
  by_cases hp : pad = true ∧ L % 4 ≠ 0
  · rw [if_pos (hpad.mpr hp), if_pos hp]
  rw [if_neg (fun h => hp (hpad.mp h)), if_neg hp]
  by_cases ht : (FL bs.toList).length < L
  · rw [if_pos ht, if_pos ht]
  · rw [if_neg ht, if_neg ht]

/-- the vectored pre-check, given the number of bytes in the buffers (empty ones included), never faults
    and is a function of their concatenation -/
theorem validateFast_eq (bufs : Array Bytes) (pad : Bool) :
    validateFast bufs (FL bufs.toList).length pad = .ok (headVerdict (FL bufs.toList) pad) := by
  unfold validateFast
  by_cases hz : (FL bufs.toList).length = 0
  · simp [hz, headVerdict]
  · have hsz : bufs.size ≠ 0 := by
      intro h
      have : bufs.toList = [] := List.eq_nil_of_length_eq_zero (by simpa using h)
      rw [this] at hz; exact hz rfl
    have hc : (decide ((FL bufs.toList).length < 1) || bufs.size == 0) = false := by
      have h1 : ¬ (FL bufs.toList).length < 1 := by omega
      simp [h1, hsz]
    rw [hc]
    simp only [Bool.false_eq_true, if_false]
    obtain ⟨hn, hs⟩ := skipEmpty_spec bufs 0
    simp only [List.drop_zero] at hn hs
    cases hse : skipEmpty bufs 0 with
    | none => exact absurd (by rw [hn hse]; rfl) hz
    | some s =>
      obtain ⟨hslt, _, hne, hfl⟩ := hs s hse
      simp only
      have hl : (bufs.extract s bufs.size).toList = bufs.toList.drop s := by
        rw [Array.toList_extract, List.extract_eq_take_drop]
        exact List.take_of_length_le (by simp)
      have h0 : 0 < (bufs.extract s bufs.size).size := by simp; omega
      have hfirst : (bufs.extract s bufs.size)[0] = bufs[s] := by
        rw [Array.getElem_extract]; simp
      have := validateFastHead_eq (bufs.extract s bufs.size) pad h0 (by rw [hfirst]; exact hne)
      rw [hl, ← hfl] at this
      exact this

theorem validateFast_single (msg : Bytes) (pad : Bool) :
    validateFast #[msg] msg.size pad = .ok (headVerdict msg.toList pad) := by
  have := validateFast_eq #[msg] pad
  rw [show FL #[msg].toList = msg.toList by simp [FL]] at this
  simpa using this

theorem headVerdict_toList (b : Bytes) (pad : Bool) :
    headVerdict b.toList pad =
      if b.size = 0 then .invalid
      else if byteN b 0 / 64 ≠ 0 then .invalid
      else if b.size < 4 then .incomplete
      else if pad = true ∧ (getwN b 2 + 20) % 4 ≠ 0 then .invalid
      else if b.size < getwN b 2 + 20 then .incomplete
      else .len (getwN b 2 + 20) := by
  simp only [headVerdict, ← byteN_eq_byteL, Array.length_toList, getwN]
  rfl

theorem headVerdict_len_iff {b : Bytes} {pad : Bool} {L : Nat} :
    headVerdict b.toList pad = .len L ↔ 4 ≤ b.size ∧ byteN b 0 / 64 = 0 ∧ L = 20 + getwN b 2 ∧
      (pad = true → L % 4 = 0) ∧ L ≤ b.size := by
  rw [headVerdict_toList]
  by_cases h0 : b.size = 0
  · rw [if_pos h0]; exact ⟨fun h => (by cases h), fun h => by omega⟩
  rw [if_neg h0]
  by_cases h1 : byteN b 0 / 64 ≠ 0
  · rw [if_pos h1]; exact ⟨fun h => (by cases h), fun h => absurd h.2.1 h1⟩
  rw [if_neg h1]
  by_cases h2 : b.size < 4
  · rw [if_pos h2]; exact ⟨fun h => (by cases h), fun h => by omega⟩
  rw [if_neg h2]
  by_cases h3 : pad = true ∧ (getwN b 2 + 20) % 4 ≠ 0
  · rw [if_pos h3]; exact ⟨fun h => (by cases h), fun ⟨_, _, hL, hp, _⟩ => by have := hp h3.1; omega⟩
  rw [if_neg h3]
  by_cases h4 : b.size < getwN b 2 + 20
  · rw [if_pos h4]; exact ⟨fun h => (by cases h), fun h => by omega⟩
  rw [if_neg h4]
  constructor
  · intro h
    cases h
    exact ⟨by omega, by omega, by omega, fun hp => Decidable.byContradiction fun hc => h3 ⟨hp, hc⟩, by omega⟩
  · rintro ⟨_, _, hL, _, _⟩
    rw [hL, Nat.add_comm]

theorem headVerdict_incomplete_iff (l : List UInt8) (pad : Bool) :
    headVerdict l pad = .incomplete ↔ Incomplete pad l := by
  unfold headVerdict Incomplete
  match l with
  | [] => exact ⟨fun h => (by cases h), fun ⟨_, _, h, _⟩ => (by cases h)⟩
  | b0 :: rest =>
    rw [if_neg (by simp), show byteL (b0 :: rest) 0 = b0.toNat from rfl]
    by_cases hb : b0.toNat / 64 ≠ 0
    · rw [if_pos hb]; exact ⟨fun h => (by cases h), fun ⟨_, _, e, h, _⟩ => by cases e; exact absurd h hb⟩
    rw [if_neg hb]
    have hb' : b0.toNat / 64 = 0 := Decidable.not_not.mp hb
    by_cases h4 : (b0 :: rest).length < 4
    · rw [if_pos h4]; exact ⟨fun _ => ⟨_, _, rfl, hb', Or.inl h4⟩, fun _ => rfl⟩
    rw [if_neg h4]
    obtain ⟨b1, l0, l1, rest, rfl⟩ : ∃ b1 l0 l1 r, rest = b1 :: l0 :: l1 :: r := by
      match rest with
      | _ :: _ :: _ :: _ => exact ⟨_, _, _, _, rfl⟩
      | [] | [_] | [_, _] => simp at h4
    rw [show byteL (b0 :: b1 :: l0 :: l1 :: rest) 2 * 256 + byteL (b0 :: b1 :: l0 :: l1 :: rest) 3 + 20 =
      20 + be16 l0 l1 from Nat.add_comm ..]
    by_cases h3 : pad = true ∧ (20 + be16 l0 l1) % 4 ≠ 0
    · rw [if_pos h3]
      refine ⟨fun h => (by cases h), fun ⟨_, _, _, _, hc⟩ => ?_⟩
      rcases hc with hc | ⟨_, _, _, _, e, hp, _⟩
      · exact absurd hc h4
      · cases e; exact absurd (hp h3.1) h3.2
    rw [if_neg h3]
    by_cases ht : (b0 :: b1 :: l0 :: l1 :: rest).length < 20 + be16 l0 l1
    · rw [if_pos ht]
      exact ⟨fun _ => ⟨_, _, rfl, hb', Or.inr ⟨_, _, _, _, rfl,
        fun hp => Decidable.byContradiction fun hc => h3 ⟨hp, hc⟩, ht⟩⟩, fun _ => rfl⟩
    · rw [if_neg ht]
      refine ⟨fun h => (by cases h), fun ⟨_, _, _, _, hc⟩ => ?_⟩
      rcases hc with hc | ⟨_, _, _, _, e, _, hlt⟩
      · exact absurd hc h4
      · cases e; exact absurd hlt ht

/-- `WellFormed` with the list destructuring done once -/
theorem wellFormed_iff (pad : Bool) (b : Bytes) (L : Nat) :
    WellFormed pad b.toList L ↔ 4 ≤ b.size ∧ byteN b 0 / 64 = 0 ∧ L = 20 + getwN b 2 ∧
      (pad = true → L % 4 = 0) ∧ L ≤ b.size ∧ Tiles pad (seg b 20 (L - 20)) := by
  constructor
  · rintro ⟨b0, b1, l0, l1, rest, hl, hb, hL, hp, hle, ht⟩
    have h4 : 4 ≤ b.size := by have := congrArg List.length hl; simp at this; omega
    rw [toList_eq4 h4] at hl
    injection hl with e0 hl; injection hl with e1 hl; injection hl with e2 hl; injection hl with e3 _
    subst e0 e2 e3
    exact ⟨h4, hb, hL, hp, by simpa using hle, by rw [← drop_take_toList]; exact ht⟩
  · rintro ⟨h4, hb, hL, hp, hle, ht⟩
    exact ⟨_, _, _, _, _, toList_eq4 h4, hb, hL, hp, by simpa using hle, by rw [drop_take_toList]; exact ht⟩

/-- the full validator never faults: the header verdict, refined by the reference parser on the body -/
theorem validateLen_eq (msg : Bytes) (pad : Bool) :
    validateLen msg pad = .ok (match headVerdict msg.toList pad with
      | .len L => if (parseFrom pad 20 (seg msg 20 (L - 20))).isSome then .len L else .invalid
      | r => r) := by
  unfold validateLen
  rw [validateFast_single]
  cases hf : headVerdict msg.toList pad with
  | invalid => rfl
  | incomplete => rfl
  | len L =>
    have := headVerdict_len_iff.mp hf
    simp only
    rw [walkAttrs_eq pad _ _ (by omega)]
    cases (parseFrom pad 20 (seg msg 20 (L - 20))).isSome <;> rfl

theorem validateLen_len {msg : Bytes} {pad : Bool} {L : Nat} :
    validateLen msg pad = .ok (.len L) ↔
      headVerdict msg.toList pad = .len L ∧ (parseFrom pad 20 (seg msg 20 (L - 20))).isSome := by
  rw [validateLen_eq]
  cases headVerdict msg.toList pad with
  | invalid => simp
  | incomplete => simp
  | len L' =>
    simp only [Except.ok.injEq, LenRes.len.injEq]
    split
    · next hp => exact ⟨fun e => by cases e; exact ⟨rfl, hp⟩, fun e => by rw [e.1]⟩
    · next hp => exact ⟨fun e => (by cases e), fun e => absurd (e.1 ▸ e.2) hp⟩

theorem validateLen_iff_wellFormed {msg : Bytes} {pad : Bool} {L : Nat} :
    validateLen msg pad = .ok (.len L) ↔ WellFormed pad msg.toList L := by
  rw [validateLen_len, headVerdict_len_iff, wellFormed_iff, tiles_iff_parse pad 20, ← Option.isSome_iff_exists]
  exact ⟨fun ⟨⟨h1, h2, h3, h4, h5⟩, hp⟩ => ⟨h1, h2, h3, h4, h5, hp⟩,
    fun ⟨h1, h2, h3, h4, h5, hp⟩ => ⟨⟨h1, h2, h3, h4, h5⟩, hp⟩⟩

end Nice.Stun
