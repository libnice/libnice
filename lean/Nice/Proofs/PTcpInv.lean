/-
  The basic invariant `Inv0`, kept by every function of `Nice.PTcp` up to the public operations and histories.  It is followed
  on the footprint (`(core s).Ok`: six facts about five field values), so that only a change of one of the five needs an
  argument.  Chains of calls are walked with `mvcgen`; where a ring changes, the inversions of PTcpCases are read.
-/
import Nice.Proofs.PTcpFrame
namespace Nice.Proofs.PTcp
open Nice.PTcp Nice.Gen Std.Do
open Nice.Proofs.PTcpStream (storeStage)

set_option mvcgen.warning false

/-- of the invariant of DESIGN 5a, piece 1 (fifo bounds) and the `rx_rto` bounds of piece 6, plus the window-scale bounds
    that make the two shifts defined: `swnd_scale <= 14`, `rwnd_scale < 32`, `MIN_RTO <= rx_rto <= MAX_RTO` -/
structure Inv0 (s : Sock) : Prop where
  sws : s.swnd_scale ≤ 14
  rws : s.rwnd_scale < 32
  rto_lo : cMIN_RTO ≤ s.rx_rto
  rto_hi : s.rx_rto ≤ cMAX_RTO
  rb : FOk s.rbuf
  sb : FOk s.sbuf

theorem init_inv0 (conv : UInt32) : Inv0 (Sock.init conv) := by
  refine ⟨?_, ?_, ?_, ?_, fok_init _ (by decide) (by decide), fok_init _ (by decide) (by decide)⟩
  · show (0 : UInt8) ≤ 14; decide
  · show (0 : UInt8) < 32; decide
  · show cMIN_RTO ≤ cDEF_RTO; decide
  · show cDEF_RTO ≤ cMAX_RTO; decide

theorem min14_le (a : UInt8) : min a 14 ≤ 14 := by
  have : min a 14 = if a ≤ 14 then a else 14 := rfl
  rw [this]
  split
  · assumption
  · exact UInt8.le_refl _

/-- on the five values, not on a socket: two sockets that agree on them have the same statement -/
structure Ok5 (sws rws : UInt8) (rto : UInt32) (rb sb : Fifo) : Prop where
  sws : sws ≤ 14
  rws : rws < 32
  rto_lo : cMIN_RTO ≤ rto
  rto_hi : rto ≤ cMAX_RTO
  rb : FOk rb
  sb : FOk sb

abbrev Core.Ok (c : Core) : Prop := Ok5 c.swnd_scale c.rwnd_scale c.rx_rto c.rbuf c.sbuf

theorem inv0_iff {s : Sock} : Inv0 s ↔ (core s).Ok :=
  ⟨fun h => ⟨h.sws, h.rws, h.rto_lo, h.rto_hi, h.rb, h.sb⟩, fun h => ⟨h.sws, h.rws, h.rto_lo, h.rto_hi, h.rb, h.sb⟩⟩

theorem ok_quiet {s s' : Sock} (h : QuietRel s s') (hi : (core s).Ok) : (core s').Ok :=
  ⟨h.swnd_scale ▸ hi.sws, h.rwnd_scale ▸ hi.rws, (h.rto ⟨hi.rto_lo, hi.rto_hi⟩).1, (h.rto ⟨hi.rto_lo, hi.rto_hi⟩).2,
    h.rbuf ▸ hi.rb, h.sbuf ▸ hi.sb⟩

theorem ok_sent {cl : Prop} {s s' : Sock} (h : SendRel cl s s') (hi : (core s).Ok) : (core s').Ok :=
  ok_quiet (quiet_of_sent h) hi

theorem ok_acked {s s' : Sock} (h : AckRel s s') (hi : (core s).Ok) : (core s').Ok := by
  obtain ⟨sm, ha, hs⟩ := h
  have hr := ha.rto ⟨hi.rto_lo, hi.rto_hi⟩
  refine ok_sent hs ⟨ha.swnd_scale ▸ hi.sws, ha.rwnd_scale ▸ hi.rws, hr.1, hr.2, ha.rbuf ▸ hi.rb, ?_⟩
  rcases ha.ack with ⟨e, _⟩ | e
  · exact e ▸ hi.sb
  · exact (consumeReadData_ok hi.sb e).1

theorem attemptSend_ok (s : Sock) (sf : SendFlags) (clk : UInt32) :
    ⦃⌜(core s).Ok⌝⦄ attemptSend s sf clk ⦃⇓? s' => ⌜(core s').Ok⌝⦄ :=
  keeps_of (P := fun s => (core s).Ok) (attemptSend_rel s s sf clk) fun _ => ok_sent

theorem closedown_ok (s : Sock) (e : Err) (src : ClosedownSource) (clk : UInt32) :
    ⦃⌜(core s).Ok⌝⦄ closedown s e src clk ⦃⇓? s' => ⌜(core s').Ok⌝⦄ :=
  keeps_of (P := fun s => (core s).Ok) (closedown_rel s s e src clk) fun _ => ok_sent

theorem adjustMTU_ok (s : Sock) : ⦃⌜(core s).Ok⌝⦄ adjustMTU s ⦃⇓? s' => ⌜(core s').Ok⌝⦄ :=
  keeps_of (cl := False) (P := fun s => (core s).Ok) (adjustMTU_rel s s) fun _ => ok_sent

theorem setState_ok (s : Sock) (n : TcpState) : ⦃⌜(core s).Ok⌝⦄ setState s n ⦃⇓? s' => ⌜(core s').Ok⌝⦄ :=
  to_triple fun hi s' h => by rw [setState_eq h]; exact hi

theorem setStateEstablished_ok (s : Sock) : ⦃⌜(core s).Ok⌝⦄ setStateEstablished s ⦃⇓? s' => ⌜(core s').Ok⌝⦄ := by
  mvcgen [setStateEstablished, setState_ok, adjustMTU_ok]

theorem resizeSendBuffer_ok (s : Sock) (n : UInt32) : ⦃⌜(core s).Ok⌝⦄ resizeSendBuffer s n ⦃⇓? s' => ⌜(core s').Ok⌝⦄ :=
  to_triple fun hi s' h => by
    obtain ⟨⟨_, sb⟩, hc, h⟩ := bind_ok h
    cases h
    exact { hi with sb := setCapacity_fok hi.sb (u32_lt_64 n) hc }

theorem resizeReceiveBuffer_ok (s : Sock) (n : UInt32) :
    ⦃⌜(core s).Ok⌝⦄ resizeReceiveBuffer s n ⦃⇓? s' => ⌜(core s').Ok⌝⦄ :=
  to_triple fun hi s' h => by
    rcases resizeReceiveBuffer_eq h with rfl | ⟨rb, hc, len, sc, wnd, hsc, rfl⟩
    · exact hi
    · exact { hi with rb := setCapacity_fok hi.rb (u32_lt_64 _) hc, rws := hsc }

theorem queue_ok (s : Sock) (d : Array UInt8) (len : UInt32) (fl : UInt8) :
    ⦃⌜(core s).Ok⌝⦄ queue s d len fl ⦃⇓? r => ⌜(core r.2).Ok⌝⦄ :=
  to_triple fun h r hq => by
    obtain ⟨len', sl, c, sb, _, hw, rfl⟩ := queue_eq hq
    exact { h with sb := (write_ok h.sb hw).1 }

theorem queueConnectMessage_ok (s : Sock) : ⦃⌜(core s).Ok⌝⦄ queueConnectMessage s ⦃⇓? s' => ⌜(core s').Ok⌝⦄ := by
  mvcgen [queueConnectMessage, queue_ok]

theorem parseOptions_ok (s : Sock) (p : Array UInt8) (base len : Nat) :
    ⦃⌜(core s).Ok⌝⦄ parseOptions s p base len ⦃⇓? s' => ⌜(core s').Ok⌝⦄ :=
  to_triple fun hi s' h => by
    obtain ⟨sc, fa, s1, sc', fa', hsc, hsc', hs1, rfl⟩ := parseOptions_eq h
    have h14 : sc ≤ 14 := hsc.elim (fun e => e ▸ hi.sws) (fun ⟨v, e⟩ => e ▸ min14_le v)
    have k0 : (core { s with swnd_scale := sc, support_fin_ack := fa }).Ok := { hi with sws := h14 }
    have k1 : (core s1).Ok := by
      rcases hs1 with rfl | hs1
      · exact k0
      · exact of_triple_pre (resizeReceiveBuffer_ok _ _) k0 s1 hs1
    exact { k1 with sws := hsc'.elim (fun e => e ▸ h14) (fun e => e ▸ UInt8.zero_le) }

theorem rlistRecover_fok {l : List RSeg} {rb : Fifo} {a b : UInt32} {sf : SendFlags}
    {r : List RSeg × Fifo × UInt32 × UInt32 × SendFlags} (hb : FOk rb) (h : rlistRecover l rb a b sf = .ok r) :
    FOk r.2.1 := by
  induction l generalizing rb a b sf with
  | nil => cases h; exact hb
  | cons d rest ih =>
    unfold rlistRecover at h
    rcases ite_ok h with ⟨_, h⟩ | ⟨_, h⟩
    · rcases ite_ok h with ⟨_, h⟩ | ⟨_, h⟩
      · obtain ⟨rb1, h1, h⟩ := bind_ok h
        exact ih (consumeWriteBuffer_ok hb h1).1 h
      · exact ih hb h
    · cases h; exact hb

theorem storeStage_ok {s : Sock} {seg : Segment} {p : Array UInt8} {b : Bool} {sf : SendFlags}
    {r : Sock × SendFlags × Bool} (hi : (core s).Ok) (h : storeStage s seg p b sf = .ok r) : (core r.1).Ok := by
  rcases storeStage_cases h with
    ⟨_, rfl⟩ | ⟨_, _, rfl⟩ | ⟨_, _, rb1, hw, ⟨_, rfl⟩ | ⟨_, rb2, _, _, _, _, _, hcw, hrr, rfl⟩⟩
  · exact hi
  · exact hi
  · exact { hi with rb := (writeOffset_ok hi.rb hw).1 }
  · exact { hi with rb := rlistRecover_fok (consumeWriteBuffer_ok (writeOffset_ok hi.rb hw).1 hcw).1 hrr }

theorem processData_ok {s : Sock} {seg : Segment} {p : Array UInt8} {rf : Bool} {clk : UInt32} {r : Bool × Sock}
    (hi : (core s).Ok) (h : processData s seg p rf clk = .ok r) : (core r.2).Ok := by
  obtain ⟨s1, sf, bNew, s3, hst, has, rfl⟩ := processData_cases h
  /- `by exact`: elaborated once `hst` has fixed the socket; `hi` is about another one with the same footprint, and the
     unifier unfolds `core` only when both are known -/
  have k1 : (core s1).Ok := storeStage_ok (by exact hi) hst
  exact of_triple_pre (attemptSend_ok _ sf clk) (by exact k1) s3 has

theorem processFin_ok {s : Sock} {seg : Segment} {p : Array UInt8} {bc fa : Bool} {clk : UInt32} {r : Bool × Sock}
    (hi : (core s).Ok) (h : processFin s seg p bc fa clk = .ok r) : (core r.2).Ok := by
  obtain ⟨s1, h1, h2⟩ := processFin_cases h
  have k1 : (core s1).Ok := by
    rcases h1 with ⟨_, _, he⟩ | ⟨_, rfl⟩
    · exact of_triple_pre (setStateEstablished_ok s) hi s1 he
    · exact hi
  rcases h2 with ⟨_, hd⟩ | ⟨_, _, _, rfl⟩ | ⟨_, hd⟩
  · exact processData_ok k1 hd
  · exact k1
  · exact processData_ok (by exact k1) hd

theorem processAck_ok {s : Sock} {seg : Segment} {p : Array UInt8} {bc : Bool} {now clk : UInt32} {r : Bool × Sock}
    (hi : (core s).Ok) (h : processAck s seg p bc now clk = .ok r) : (core r.2).Ok := by
  obtain ⟨s1, hrel, hend⟩ := processAck_cases h
  have h1 := ok_acked hrel hi
  rcases hend with rfl | ⟨e, hc, _⟩ | ⟨fa, hf⟩
  · exact h1
  · exact of_triple_pre (closedown_ok s1 e .loc clk) h1 _ hc
  · exact processFin_ok h1 hf

theorem hsStep_ok {s s2 : Sock} {seg : Segment} {p : Array UInt8} (hi : (core s).Ok)
    (h : hsStep s seg p = .ok s2) : (core s2).Ok := by
  by_cases hst : s.state = .listen ∨ s.state = .synSent
  · obtain ⟨s1, hp, hcase⟩ := hsStep_cases hst h
    have k1 : (core s1).Ok := of_triple_pre (parseOptions_ok s p _ _) hi s1 hp
    rcases hcase with ⟨_, hq⟩ | ⟨_, he⟩ | ⟨_, _, rfl⟩
    · exact of_triple_pre (queueConnectMessage_ok _) (by exact k1) s2 hq
    · exact of_triple_pre (setStateEstablished_ok s1) k1 s2 he
    · exact k1
  · rw [hsStep_id seg p (fun e => hst (.inl e)) (fun e => hst (.inr e))] at h
    cases h; exact hi

theorem processBody_ok {s : Sock} {seg : Segment} {p : Array UInt8} {clk : UInt32} {r : Bool × Sock}
    (hi : (core s).Ok) (h : processBody s seg p clk = .ok r) : (core r.2).Ok := by
  have k0 : (core (arrived s clk)).Ok := hi
  rcases processBody_cases h with ⟨e, src, s1, hc, rfl⟩ | rfl | ⟨_, _, s2, hh, ha⟩ | ⟨_, _, ha⟩
  · exact of_triple_pre (closedown_ok _ e src clk) k0 s1 hc
  · exact k0
  · exact processAck_ok (hsStep_ok k0 hh) ha
  · exact processAck_ok k0 ha

theorem notifyPacket_ok (s : Sock) (p : Array UInt8) (clk : UInt32) :
    ⦃⌜(core s).Ok⌝⦄ notifyPacket s p clk ⦃⇓? r => ⌜(core r.2).Ok⌝⦄ :=
  to_triple fun hi r h => by
    rcases notifyPacket_cases h with ⟨e, rfl⟩ | rfl | ⟨seg, _, hb⟩
    · exact hi
    · exact hi
    · exact processBody_ok hi hb

theorem connect_ok (s : Sock) (clk : UInt32) : ⦃⌜(core s).Ok⌝⦄ connect s clk ⦃⇓? r => ⌜(core r.2).Ok⌝⦄ := by
  mvcgen [connect, setState_ok, queueConnectMessage_ok, attemptSend_ok]

theorem recv_ok (s : Sock) (n : Nat) (clk : UInt32) : ⦃⌜(core s).Ok⌝⦄ recv s n clk ⦃⇓? r => ⌜(core r.2.2).Ok⌝⦄ :=
  to_triple fun hi r h => by
    obtain ⟨ret, bytes, s'⟩ := r
    rcases recv_cases h with ⟨_, hs, _⟩ | ⟨bs, rb, hrd, hcase⟩
    · rcases hs with rfl | rfl <;> exact hi
    · have k : (core { s with rbuf := rb }).Ok := { hi with rb := (read_ok hi.rb hrd).1 }
      rcases hcase with ⟨_, _, _, _, rfl⟩ | ⟨_, _, rfl | rfl | ha⟩
      · exact k
      · exact k
      · exact k
      · exact of_triple_pre (attemptSend_ok _ _ clk) (by exact k) s' ha

theorem send_ok (s : Sock) (d : Array UInt8) (clk : UInt32) : ⦃⌜(core s).Ok⌝⦄ send s d clk ⦃⇓? r => ⌜(core r.2).Ok⌝⦄ := by
  mvcgen [send, queue_ok, attemptSend_ok]

theorem setRcvBuf_ok (s : Sock) (v : UInt32) : ⦃⌜(core s).Ok⌝⦄ setRcvBuf s v ⦃⇓? r => ⌜(core r).Ok⌝⦄ := by
  mvcgen [setRcvBuf, resizeReceiveBuffer_ok]

theorem setSndBuf_ok (s : Sock) (v : UInt32) : ⦃⌜(core s).Ok⌝⦄ setSndBuf s v ⦃⇓? r => ⌜(core r).Ok⌝⦄ := by
  mvcgen [setSndBuf, resizeSendBuffer_ok]

theorem step_inv0 (s s' : Sock) (clk : UInt32) (op : Op) (hi : Inv0 s) (h : step s clk op = .ok s') : Inv0 s' := by
  refine inv0_iff.mpr ?_
  have hi := inv0_iff.mp hi
  have key : ⦃⌜(core s).Ok⌝⦄ step s clk op ⦃⇓? r => ⌜(core r).Ok⌝⦄ := by
    cases op
    case setRcvBuf | setSndBuf | connect | send | recv | packet =>
      mvcgen [step, setRcvBuf_ok, setSndBuf_ok, connect_ok, send_ok, recv_ok, notifyPacket_ok]
    all_goals exact to_triple fun hi r hr => ok_quiet (step_quiet hr trivial) hi
  exact of_triple_pre key hi s' h

theorem run_inv0 (ops : List (UInt32 × Op)) (s s' : Sock) (hi : Inv0 s) (h : run s ops = .ok s') : Inv0 s' :=
  run_induction step_inv0 ops s s' hi h

end Nice.Proofs.PTcp
