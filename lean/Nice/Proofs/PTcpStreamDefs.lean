/-
  C08 end to end, receive side, against a ghost stream `W`: what an honest peer can emit (`SegOk`) and the invariant that
  ring, `rcv_nxt` and `rlist` agree with `W` (`RInv`).  Sequence numbers are read as absolute positions: below 2^31 the
  modular comparisons of the C macros are the comparisons of the numbers.
-/
import Nice.Proofs.PTcpRing
import Nice.Proofs.PTcpFrame
namespace Nice.Proofs.PTcpStream
open Nice.PTcp Nice.Gen Nice.Proofs.PTcp

/-- the core lemma with its hypothesis on `toNat`, where `omega` proves it -/
theorem sub_toNat_of_le (a b : UInt32) (h : b.toNat ≤ a.toNat) : (a - b).toNat = a.toNat - b.toNat :=
  UInt32.toNat_sub_of_le a b h

theorem add_toNat_of_lt (a b : UInt32) (h : a.toNat + b.toNat < 2 ^ 32) : (a + b).toNat = a.toNat + b.toNat := by
  rw [UInt32.toNat_add]; omega

theorem c31_toNat : (2147483647 : UInt32).toNat = 2147483647 := rfl

/-- the C macros return 1 / 0: read as a Bool they are the test itself -/
theorem lt?_ite (c : Prop) [Decidable c] : lt? (if decide c then 1 else 0 : Int32) = decide c := by
  by_cases h : c <;> simp [lt?, h]

theorem smaller_iff (a b : UInt32) (ha : a.toNat < 2 ^ 31) (hb : b.toNat < 2 ^ 31) :
    lt? (ptcp_smaller a b) = decide (a.toNat < b.toNat) := by
  unfold ptcp_smaller
  rw [lt?_ite]; apply decide_eq_decide.mpr
  rw [UInt32.lt_iff_toNat_lt, UInt32.toNat_sub, UInt32.toNat_sub, UInt32.toNat_one, c31_toNat]; omega

theorem larger_iff (a b : UInt32) (ha : a.toNat < 2 ^ 31) (hb : b.toNat < 2 ^ 31) :
    lt? (ptcp_larger a b) = decide (b.toNat < a.toNat) := smaller_iff b a hb ha

theorem smaller_eq_iff (a b : UInt32) (ha : a.toNat < 2 ^ 31) (hb : b.toNat < 2 ^ 31 - 1) :
    lt? (ptcp_smaller_or_equal a b) = decide (a.toNat ≤ b.toNat) := by
  unfold ptcp_smaller_or_equal
  rw [lt?_ite]; apply decide_eq_decide.mpr
  rw [UInt32.lt_iff_toNat_lt, UInt32.toNat_sub, c31_toNat]; omega

theorem smaller_self (a : UInt32) : lt? (ptcp_smaller a a) = false := by
  unfold ptcp_smaller
  rw [lt?_ite]; apply decide_eq_false
  rw [UInt32.lt_iff_toNat_lt, UInt32.toNat_sub, UInt32.toNat_sub, UInt32.toNat_one, c31_toNat]
  have := a.toNat_lt; omega

/-- the four FIN-received states other than CLOSED (CLOSED is also the result of every local / error closure) -/
def Fin4 : TcpState → Prop
  | .closing | .timeWait | .closeWait | .lastAck => True
  | _ => False

instance : DecidablePred Fin4 := fun s => by cases s <;> unfold Fin4 <;> infer_instance

/-- **`SegOk W D seg p`**: the incoming segment `seg` (header fields, payload `p[dataOff .. dataOff+len)`) is one the
    honest peer can emit when the peer's connect message occupies sequence numbers `[0, D)` and its application wrote
    the bytes `W` (sequence numbers `[D, D + |W|)`) before closing:
    * a control segment is the whole connect message (`seq = 0`, `len = D`) or empty;
    * a data segment carries `W[seq - D .. seq - D + len)`;
    * a FIN segment sits exactly at the end of the stream. -/
structure SegOk (W : List UInt8) (D : Nat) (seg : Segment) (p : Array UInt8) : Prop where
  ctl : (seg.flags &&& cFLAG_CTL) ≠ 0 → seg.len = 0 ∨ (seg.seq = 0 ∧ seg.len.toNat = D)
  data : (seg.flags &&& cFLAG_CTL) = 0 → seg.len ≠ 0 →
    D ≤ seg.seq.toNat ∧ seg.seq.toNat + seg.len.toNat ≤ D + W.length ∧
    ∀ j, j < seg.len.toNat → p.getD (seg.dataOff + j) 0 = W.getD (seg.seq.toNat - D + j) 0
  fin : (seg.flags &&& cFLAG_FIN) ≠ 0 → seg.seq.toNat = D + W.length

/-- the ring holds the right byte for sequence number `q`: logical position `q - (D + n)` exists and is `W[q - D]`
    (`Sync` spells it out) -/
def Agree (W : List UInt8) (D n : Nat) (rb : Fifo) (q : Nat) : Prop :=
  q - (D + n) < rb.buf.size ∧ byteAt rb (q - (D + n)) = W.getD (q - D) 0

/-- receive ring / `rcv_nxt` / `rlist` agree with the ghost stream.  `n` = number of bytes `recv` has returned so far;
    logical ring byte `i` is stream byte `n + i`, i.e. sequence number `D + n + i`.
    * `rcv_nxt` is the sequence number just after the committed data (plus one once the FIN has been consumed);
    * every out-of-order range recorded in `rlist` lies inside the stream, and its part at or after `rcv_nxt` is stored in
      the ring at its own position and equals the stream there. -/
def Sync (W : List UInt8) (D n : Nat) (rb : Fifo) (nxt : UInt32) (rl : List RSeg) : Prop :=
  (nxt.toNat = D + n + rb.data ∨ (nxt.toNat = D + W.length + 1 ∧ n + rb.data = W.length)) ∧
  ∀ r, r ∈ rl → r.seq.toNat + r.len.toNat ≤ D + W.length ∧
    ∀ q, r.seq.toNat ≤ q → q < r.seq.toNat + r.len.toNat → nxt.toNat ≤ q →
      q - (D + n) < rb.buf.size ∧ byteAt rb (q - (D + n)) = W.getD (q - D) 0

/-- state-independent part of the receive-side stream invariant -/
structure RCore (W : List UInt8) (D n : Nat) (s : Sock) : Prop where
  fok : FOk s.rbuf
  pre : n + s.rbuf.data ≤ W.length
  com : ∀ i, i < s.rbuf.data → byteAt s.rbuf i = W.getD (n + i) 0
  sync : (s.support_fin_ack = false ∧ s.shutdown ≠ .none) ∨ Sync W D n s.rbuf s.rcv_nxt s.rlist
  finp : s.rcv_fin = 0 ∨ s.rcv_fin.toNat = D + W.length

/-- the receive-side stream invariant with the state named apart: `ph` (the handshake is over) and `fin4` speak of `st0`,
    and `stk` says the socket is in `st0` or CLOSED.  `RInv` takes the socket's own state for `st0`. -/
structure RInvS (W : List UInt8) (D n : Nat) (st0 : TcpState) (s : Sock) : Prop where
  core : RCore W D n s
  ph : st0 ≠ .listen ∧ st0 ≠ .synSent
  fin4 : Fin4 st0 → s.support_fin_ack = true ∧ s.rcv_nxt.toNat = D + W.length + 1
  stk : s.state = st0 ∨ s.state = .closed

/-- **the receive-side stream invariant** (after the handshake): the committed ring content is the ghost stream at
    positions `n ..`, `rcv_nxt`/`rlist` are synchronised with it (unless the socket is in the "discard input" mode of a
    shut-down socket without FIN-ACK support), and a FIN-received state means the whole stream has been committed. -/
def RInv (W : List UInt8) (D n : Nat) (s : Sock) : Prop := RInvS W D n s.state s

theorem RInv.toS {W D n s} (h : RInv W D n s) : RInvS W D n s.state s := h

theorem fin4_of_localTr {a b : TcpState} (h : LocalTr a b) (hb : Fin4 b) : Fin4 a := by
  rcases h with rfl | rfl | ⟨_, rfl⟩ | ⟨_, rfl⟩ | ⟨rfl, rfl⟩
  · exact hb
  all_goals first | trivial | cases hb

section
variable {W : List UInt8} {D n : Nat} {s s' : Sock}

theorem RCore.congr (h : RCore W D n s)
    (e : (s'.rbuf, s'.rcv_nxt, s'.rlist, s'.rcv_fin, s'.support_fin_ack, s'.shutdown) =
      (s.rbuf, s.rcv_nxt, s.rlist, s.rcv_fin, s.support_fin_ack, s.shutdown)) : RCore W D n s' := by
  obtain ⟨e1, e2, e3, e4, e5, e6⟩ : s'.rbuf = s.rbuf ∧ s'.rcv_nxt = s.rcv_nxt ∧ s'.rlist = s.rlist ∧
      s'.rcv_fin = s.rcv_fin ∧ s'.support_fin_ack = s.support_fin_ack ∧ s'.shutdown = s.shutdown := by simpa using e
  exact ⟨e1 ▸ h.fok, e1 ▸ h.pre, e1 ▸ h.com, by rw [e1, e2, e3, e5, e6]; exact h.sync, e4 ▸ h.finp⟩

theorem RCore.local (h : RCore W D n s) (k : LocalRel s s') : RCore W D n s' := by
  have e1 : s'.rbuf = s.rbuf := k.rbuf
  have e2 : s'.rcv_nxt = s.rcv_nxt := k.rcv_nxt
  have e3 : s'.rlist = s.rlist := k.rlist
  have e4 : s'.rcv_fin = s.rcv_fin := k.rcv_fin
  have e5 : s'.support_fin_ack = s.support_fin_ack := k.support_fin_ack
  have e6 : s.shutdown ≠ .none → s'.shutdown ≠ .none := k.shutdown
  exact ⟨e1 ▸ h.fok, e1 ▸ h.pre, e1 ▸ h.com, by rw [e1, e2, e3, e5]; exact h.sync.imp_left fun x => ⟨x.1, e6 x.2⟩,
    e4 ▸ h.finp⟩

theorem RInv.local (h : RInv W D n s) (k : LocalRel s s') : RInv W D n s' := by
  have e2 : s'.rcv_nxt = s.rcv_nxt := k.rcv_nxt
  have e5 : s'.support_fin_ack = s.support_fin_ack := k.support_fin_ack
  have e7 : LocalTr s.state s'.state := k.state
  exact ⟨h.toS.core.local k, e7.ph h.toS.ph, fun hF => by rw [e5, e2]; exact h.toS.fin4 (fin4_of_localTr e7 hF), Or.inl rfl⟩

end

end Nice.Proofs.PTcpStream
