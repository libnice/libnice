/-
  The send side of the public operations.  All but `send`, `connect`, `notify_packet` and the send-buffer setter keep the
  send side of the footprint (`step_snd`); the ghost stream grows only by the connect message (queued once, in LISTEN:
  `Grow`) and by what `send` reports as accepted; ghost-instrumented histories (`runS`).
-/
import Nice.Proofs.PTcpStreamSnd
namespace Nice.Proofs.PTcpStream
open Nice.PTcp Nice.Gen Nice.Proofs.PTcp

/-- `s'` is `s` after a step that may have queued our connect message: the ghost stream grows by some `X`, and only when
    the step started in LISTEN (where the stream is still empty) -/
def Grow (s s' : Sock) : Prop := ∀ Q, SInvE Q s → ∃ X, SInvE (Q ++ X) s' ∧ (X = [] ∨ s.state = .listen)

theorem Grow.of_keep {s s' : Sock} (h : ∀ Q, SInvE Q s → SInvE Q s') : Grow s s' :=
  fun Q hi => ⟨[], by rw [List.append_nil]; exact h Q hi, Or.inl rfl⟩

theorem Grow.of_snd {s s' : Sock} (k : SndRel s s') : Grow s s' := Grow.of_keep fun _ => SInvE.snd k

theorem Grow.after {s0 s s' : Sock} (k : SndRel s0 s) (g : Grow s s') : Grow s0 s' := fun Q hi => by
  obtain ⟨X, hx, hl⟩ := g Q (SInvE.snd k hi)
  exact ⟨X, hx, hl.imp_right k.listen⟩

theorem Grow.keep {s s1 s2 : Sock} (g : Grow s s1) (h : ∀ Q, SInvE Q s1 → SInvE Q s2) : Grow s s2 := fun Q hi => by
  obtain ⟨X, hx, hl⟩ := g Q hi
  exact ⟨X, h _ hx, hl⟩

theorem listen_queue_grow {s s' : Sock} {t : TcpState} (hl : s.state = .listen)
    (ht : hasSentFin t = false ∧ t ≠ .listen) (h : queueConnectMessage { s with state := t } = .ok s') : Grow s s' := by
  intro Q ⟨a, f, hi⟩
  unfold queueConnectMessage at h
  obtain ⟨⟨w, s1⟩, hq, h⟩ := bind_ok h
  cases h
  have k : SndRel s { s with state := t } := SndRel.state t (fun e => by rw [hl] at e; cases e) (fun e => absurd e ht.2)
  -- `by exact`: elaborated once `hq` has fixed the socket, `s` in state `t` with a new `snd_wnd`
  exact ⟨_, ⟨a, f, (queue_sinv Q _ _ _ _ _ (by exact hi.snd k) (by exact ht) hq).1⟩, Or.inr hl⟩

theorem hsStep_grow {s s2 : Sock} {seg : Segment} {p : Array UInt8} (h : hsStep s seg p = .ok s2) : Grow s s2 := by
  by_cases hst : s.state = .listen ∨ s.state = .synSent
  · obtain ⟨s1, h1, hc⟩ := hsStep_cases hst h
    refine Grow.after (parseOptions_snd h1) ?_
    rcases hc with ⟨hl, h2⟩ | ⟨hl, h2⟩ | ⟨_, _, rfl⟩
    · exact listen_queue_grow hl ⟨rfl, fun e => by cases e⟩ h2
    · exact Grow.of_snd (setStateEstablished_snd (by rw [hl]; rfl) h2)
    · exact Grow.of_snd (SndRel.refl _)
  · rw [hsStep_id seg p (fun e => hst (Or.inl e)) (fun e => hst (Or.inr e))] at h
    cases h
    exact Grow.of_snd (SndRel.refl _)

theorem notifyPacket_grow {s : Sock} {p : Array UInt8} {clk : UInt32} {r : Bool × Sock}
    (h : notifyPacket s p clk = .ok r) : Grow s r.2 := by
  rcases notifyPacket_cases h with ⟨e, rfl⟩ | rfl | ⟨seg, _, h⟩
  · exact Grow.of_snd (SndRel.refl s)
  · exact Grow.of_snd (SndRel.refl s)
  · refine Grow.after (s := arrived s clk) (SndRel.refl s) ?_
    rcases processBody_cases h with ⟨e, src, s1, h1, rfl⟩ | rfl | ⟨_, _, s2, h2, h3⟩ | ⟨_, _, h3⟩
    · exact Grow.of_snd (snd_of_sent (closedown_sent h1))
    · exact Grow.of_snd (SndRel.refl _)
    · exact (hsStep_grow h2).keep fun Q hi => processAck_sinv Q s2 seg p true _ clk r hi h3
    · exact Grow.of_keep fun Q hi => processAck_sinv Q _ seg p false _ clk r hi h3

theorem connect_grow {s : Sock} {clk : UInt32} {r : Bool × Sock} (h : connect s clk = .ok r) : Grow s r.2 := by
  unfold connect at h
  rcases ite_ok h with ⟨_, h⟩ | ⟨hst, h⟩
  · cases h; exact Grow.of_snd (SndRel.refl s)
  · have hl : s.state = .listen := Classical.not_not.mp hst
    obtain ⟨s1, h1, h⟩ := bind_ok h
    obtain ⟨s2, h2, h⟩ := bind_ok h
    obtain ⟨s3, h3, h⟩ := bind_ok h
    cases h
    rw [setState_eq h1] at h2
    exact (listen_queue_grow hl ⟨rfl, fun e => by cases e⟩ h2).keep fun _ => SInvE.snd (snd_of_sent (attemptSend_sent h3))

theorem toInt32_small (w : UInt32) (h : w.toNat < 2 ^ 31) : w.toInt32.toInt = (w.toNat : Int) := by
  show w.toInt32.toBitVec.toInt = _
  rw [UInt32.toBitVec_toInt32, BitVec.toInt_eq_toNat_of_lt (x := w.toBitVec) (by show 2 * w.toNat < 2 ^ 32; omega)]
  rfl

/-- the bytes of `d` that a `send` returning `ret` reported as accepted (`ret ≤ 0`: none) -/
def sentOf (d : Array UInt8) (ret : Int) : List UInt8 := firstBytes d ret.toNat

theorem send_sinv (Q : List UInt8) (s : Sock) (d : Array UInt8) (clk : UInt32) (ret : Int) (s' : Sock)
    (hd : d.size < 2 ^ 31) (hi : SInvE Q s) (h : send s d clk = .ok (ret, s')) : SInvE (Q ++ sentOf d ret) s' := by
  have none : ∀ s1, SndRel s s1 → SInvE (Q ++ sentOf d (-1)) s1 := fun s1 k => by
    show SInvE (Q ++ []) s1
    rw [List.append_nil]; exact SInvE.snd k hi
  unfold send at h
  rcases ite_ok h with ⟨_, h⟩ | ⟨hst, h⟩
  · cases h; exact none _ (SndRel.refl s)
  · rcases ite_ok h with ⟨_, h⟩ | ⟨_, h⟩
    · cases h; exact none _ (SndRel.refl s)
    · obtain ⟨⟨w, s1⟩, hq, h⟩ := bind_ok h
      obtain ⟨s2, h2, h⟩ := bind_ok h
      cases h
      obtain ⟨a, f, hi⟩ := hi
      have hest : s.state = .established := Classical.not_not.mp hst
      have ⟨k1, k2, _⟩ := queue_sinv Q s d _ _ _ hi (by rw [hest]; exact ⟨rfl, fun e => by cases e⟩) hq
      -- what `queue` accepted is below 2^31, so the `gint` return value is that count
      have hw : w.toNat < 2 ^ 31 := by
        have : w.toNat ≤ (UInt32.ofNat d.size).toNat := k2
        rw [UInt32.toNat_ofNat'] at this; omega
      have e1 : sentOf d w.toInt32.toInt = firstBytes d w.toNat := by
        unfold sentOf; rw [toInt32_small w hw]; rfl
      rw [e1]
      exact SInvE.snd ((snd_of_sent (attemptSend_sent h2)).trans
        (SndRel.same rfl rfl rfl rfl)) ⟨a, f, k1⟩

/-- the send buffer is resized in LISTEN only, where nothing has been queued yet -/
theorem setSndBuf_sinv (Q : List UInt8) (s : Sock) (v : UInt32) (r : Sock) (hi : SInvE Q s) (h : setSndBuf s v = .ok r) :
    SInvE Q r := by
  unfold setSndBuf at h
  rcases ite_ok h with ⟨_, h⟩ | ⟨hst, h⟩
  · cases h; exact hi
  · have hl : s.state = .listen := Classical.not_not.mp hst
    obtain ⟨a, f, hi⟩ := hi
    have hlen := hi.len
    unfold resizeSendBuffer at h
    obtain ⟨⟨b, sb⟩, hsc, h⟩ := bind_ok h
    cases h
    have ⟨g1, g2⟩ := setCapacity_ok hi.fok.1 hsc
    have hd0 : s.sbuf.data = 0 := by rw [hi.lq hl] at hlen; simp at hlen; omega
    have hsd : sb.data = 0 := by
      rcases g2 with g2 | g2
      · rw [g2]; exact hd0
      · rw [g2.2.2]; exact hd0
    have hsz : sb.buf.size < 2 ^ 64 := by
      rcases g2 with g2 | g2
      · rw [g2]; exact hi.fok.2
      · rw [g2.2.1]; exact u32_lt_64 v
    exact ⟨a, f, ⟨g1, hsz⟩, by show a + sb.data = _; rw [hsd, ← hlen, hd0],
      fun i (hi' : i < sb.data) => by omega, hi.una, fun hf => ⟨(hi.fz hf).1, hsd⟩, hi.lq, hi.out⟩

/-- every `send` is asked for less than 2^31 bytes (beyond that the C return value `gint` cannot report the count) -/
def OpOkS : Op → Prop
  | .send d => d.size < 2 ^ 31
  | _ => True

/-- `step` that also returns the bytes `send` reported as accepted (empty for every other operation) -/
def stepS (s : Sock) (clk : UInt32) : Op → R (Sock × List UInt8)
  | .send d => do let (ret, s) ← send s d clk; pure (s, sentOf d ret)
  | op => do let s ← step s clk op; pure (s, [])

/-- `run` that also accumulates everything `send` reported as accepted -/
def runS (s : Sock) (sent : List UInt8) : List (UInt32 × Op) → R (Sock × List UInt8)
  | [] => pure (s, sent)
  | (clk, op) :: rest => do let (s, x) ← stepS s clk op; runS s (sent ++ x) rest

theorem stepS_erase (s : Sock) (clk : UInt32) (op : Op) : (stepS s clk op).map (·.1) = step s clk op := by
  cases op
  case send d =>
    show ((send s d clk >>= fun r => pure (r.2, sentOf d r.1)) : R (Sock × List UInt8)).map (·.1) =
      (send s d clk >>= fun r => pure r.2)
    cases send s d clk <;> rfl
  all_goals exact erase_snd _ _

theorem runS_erase (s : Sock) (sent : List UInt8) (ops : List (UInt32 × Op)) :
    (runS s sent ops).map (·.1) = run s ops := by
  induction ops generalizing s sent with
  | nil => rfl
  | cons x rest ih =>
    obtain ⟨clk, op⟩ := x
    simp only [runS, run]
    rw [← stepS_erase]
    cases h : stepS s clk op with
    | error e => rfl
    | ok v => exact ih v.1 _

/-- the stream is the connect message (queued at most once, before anything is sent) followed by what `send` accepted -/
def SG (sent : List UInt8) (s : Sock) : Prop := ∃ ctl, SInvE (ctl ++ sent) s

theorem SG.grow {sent : List UInt8} {s s' : Sock} (hi : SG sent s) (g : Grow s s') : SG sent s' := by
  obtain ⟨ctl, hc⟩ := hi
  obtain ⟨X, k1, hx⟩ := g _ hc
  rcases hx with rfl | hx
  · rw [List.append_nil] at k1; exact ⟨ctl, k1⟩
  · -- in LISTEN the stream is still empty: `X` is the connect message
    obtain ⟨a, f, hc'⟩ := hc
    have hq := hc'.lq hx
    have hs : sent = [] := (List.append_eq_nil_iff.mp hq).2
    rw [hq] at k1
    exact ⟨X, by rw [hs, List.append_nil]; simpa using k1⟩

theorem sg_grow {sent : List UInt8} {s s' : Sock} (hi : SG sent s) (X : List UInt8)
    (h : ∀ Q, SInvE Q s → SInvE (Q ++ X) s') (hx : X = [] ∨ s.state = .listen) : SG sent s' :=
  hi.grow fun Q hq => ⟨X, h Q hq, hx⟩

theorem stepS_step {s s' : Sock} {clk : UInt32} {op : Op} {x : List UInt8} (hop : ∀ d, op ≠ .send d)
    (h : stepS s clk op = .ok (s', x)) : x = [] ∧ step s clk op = .ok s' := by
  cases op with
  | send d => exact absurd rfl (hop d)
  | _ =>
    obtain ⟨s1, h1, h⟩ := bind_ok h
    cases h; exact ⟨rfl, h1⟩

theorem stepS_sg (s : Sock) (clk : UInt32) (op : Op) (s' : Sock) (x sent : List UInt8) (hop : OpOkS op)
    (hi : SG sent s) (h : stepS s clk op = .ok (s', x)) : SG (sent ++ x) s' := by
  cases op with
  | send d =>
    obtain ⟨⟨ret, s1⟩, h1, h⟩ := bind_ok h
    cases h
    obtain ⟨ctl, hc⟩ := hi
    exact ⟨ctl, by rw [← List.append_assoc]; exact send_sinv _ s d clk ret s' hop hc h1⟩
  | packet p =>
    obtain ⟨rfl, h1⟩ := stepS_step (fun _ e => by cases e) h
    obtain ⟨r, h2, h1⟩ := bind_ok h1
    cases h1
    rw [List.append_nil]; exact hi.grow (notifyPacket_grow h2)
  | connect =>
    obtain ⟨rfl, h1⟩ := stepS_step (fun _ e => by cases e) h
    obtain ⟨r, h2, h1⟩ := bind_ok h1
    cases h1
    rw [List.append_nil]; exact hi.grow (connect_grow h2)
  | setSndBuf v =>
    obtain ⟨rfl, h1⟩ := stepS_step (fun _ e => by cases e) h
    rw [List.append_nil]; exact hi.grow (Grow.of_keep fun Q hq => setSndBuf_sinv Q s v _ hq h1)
  | _ =>
    obtain ⟨rfl, h1⟩ := stepS_step (fun _ e => by cases e) h
    rw [List.append_nil]
    exact hi.grow (Grow.of_snd (step_snd h1 trivial))

theorem runS_sg (ops : List (UInt32 × Op)) :
    ∀ (s : Sock) (sent : List UInt8) (s' : Sock) (sent' : List UInt8), SG sent s →
      (∀ x, x ∈ ops → OpOkS x.2) → runS s sent ops = .ok (s', sent') → SG sent' s' ∧ sent <+: sent' := by
  induction ops with
  | nil =>
    intro s sent s' sent' hi _ h
    simp only [runS, pure, Except.pure] at h
    cases h
    exact ⟨hi, List.prefix_refl _⟩
  | cons x rest ih =>
    intro s sent s' sent' hi hops h
    obtain ⟨clk, op⟩ := x
    simp only [runS] at h
    obtain ⟨⟨s1, y⟩, h1, h⟩ := bind_ok h
    have k1 := stepS_sg s clk op s1 y sent (hops (clk, op) List.mem_cons_self) hi h1
    have ⟨a1, a2⟩ := ih s1 (sent ++ y) s' sent' k1 (fun x hx => hops x (List.mem_cons_of_mem _ hx)) h
    exact ⟨a1, List.IsPrefix.trans (List.prefix_append _ _) a2⟩

theorem init_sg (conv : UInt32) : SG [] (Sock.init conv) := by
  refine ⟨[], 0, 0, fok_init _ (by decide) (by decide), rfl, fun i hi => absurd hi (Nat.not_lt_zero _), rfl,
    fun h => absurd rfl h, fun _ => rfl, ?_⟩
  intro e he
  exact absurd he (by simp [Sock.init])

end Nice.Proofs.PTcpStream
