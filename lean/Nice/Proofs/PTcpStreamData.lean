/-
  The data path of `process` keeps the receive-side stream invariant for every `SegOk` segment.  Trimming in closed form
  (`trimmed_eq`); what has been received as one set of sequence numbers (`Known`), all of which agree with the stream
  (`Synced`); the in-order store is the recovery step of the segment just stored.
-/
import Nice.Proofs.PTcpStreamDefs
namespace Nice.Proofs.PTcpStream
open Nice.PTcp Nice.Gen Nice.Proofs.PTcp

theorem trimLeft_eq (nxt : UInt32) (seg : Segment) :
    ∃ q l off, trimLeft nxt seg = { seg with seq := q, len := l, dataOff := off } ∧ l.toNat ≤ seg.len.toNat ∧
      (nxt.toNat < 2 ^ 31 → seg.seq.toNat + seg.len.toNat < 2 ^ 31 → l ≠ 0 →
        nxt.toNat ≤ q.toNat ∧ seg.seq.toNat ≤ q.toNat ∧ q.toNat + l.toNat = seg.seq.toNat + seg.len.toNat ∧
          off = seg.dataOff + (q.toNat - seg.seq.toNat)) := by
  unfold trimLeft
  by_cases c : lt? (ptcp_smaller seg.seq nxt) = true
  · rw [if_pos c]
    by_cases c2 : nxt - seg.seq < seg.len
    · simp only [if_pos c2]
      have c2' := UInt32.lt_iff_toNat_lt.mp c2
      have e3 := sub_toNat_of_le seg.len (nxt - seg.seq) (Nat.le_of_lt c2')
      refine ⟨_, _, _, rfl, by omega, fun hn hs _ => ?_⟩
      rw [smaller_iff _ _ (by omega) hn] at c
      have c : seg.seq.toNat < nxt.toNat := of_decide_eq_true c
      have e := sub_toNat_of_le nxt seg.seq (by omega)
      have e2 : (seg.seq + (nxt - seg.seq)).toNat = nxt.toNat := by rw [add_toNat_of_lt _ _ (by omega), e]; omega
      exact ⟨by omega, by omega, by omega, by omega⟩
    · simp only [if_neg c2]
      exact ⟨seg.seq, 0, seg.dataOff, rfl, Nat.zero_le _, fun _ _ h => absurd rfl h⟩
  · rw [if_neg c]
    refine ⟨seg.seq, seg.len, seg.dataOff, rfl, Nat.le_refl _, fun hn hs _ => ?_⟩
    rw [smaller_iff _ _ (by omega) hn] at c
    have c : ¬ seg.seq.toNat < nxt.toNat := fun h => c (decide_eq_true h)
    exact ⟨by omega, Nat.le_refl _, rfl, by omega⟩

theorem trimRight_eq (nxt : UInt32) (a : Nat) (seg : Segment) :
    ∃ l, trimRight nxt a seg = { seg with len := l } ∧ l.toNat ≤ seg.len.toNat ∧
      (nxt.toNat ≤ seg.seq.toNat → seg.seq.toNat + seg.len.toNat < 2 ^ 32 →
        l.toNat = min seg.len.toNat (a - (seg.seq.toNat - nxt.toNat))) := by
  unfold trimRight
  generalize hX : (seg.seq + seg.len - nxt).toNat = X
  have hXn : nxt.toNat ≤ seg.seq.toNat → seg.seq.toNat + seg.len.toNat < 2 ^ 32 →
      X = seg.seq.toNat + seg.len.toNat - nxt.toNat := fun h1 h2 => by
    rw [← hX, sub_toNat_of_le _ _ (by rw [add_toNat_of_lt _ _ h2]; omega), add_toNat_of_lt _ _ h2]
  have hX32 : X < 2 ^ 32 := hX ▸ UInt32.toNat_lt _
  by_cases c : X > a
  · have e : (UInt32.ofNat (gsub X a)).toNat = X - a := by
      rw [gsub_of_le (by omega) (by omega), UInt32.toNat_ofNat']; omega
    have ec : UInt32.ofNat (gsub X a) < seg.len ↔ X - a < seg.len.toNat := by rw [UInt32.lt_iff_toNat_lt, e]
    rw [if_pos c]
    by_cases c2 : UInt32.ofNat (gsub X a) < seg.len
    · have := ec.mp c2
      have e2 := sub_toNat_of_le seg.len (UInt32.ofNat (gsub X a)) (by omega)
      rw [e] at e2
      exact ⟨_, if_pos c2, by omega, fun h1 h2 => by have := hXn h1 h2; omega⟩
    · have := mt ec.mpr c2
      exact ⟨0, if_neg c2, Nat.zero_le _, fun h1 h2 => by have := hXn h1 h2; show 0 = _; omega⟩
  · rw [if_neg c]
    exact ⟨seg.len, rfl, Nat.le_refl _, fun h1 h2 => by have := hXn h1 h2; omega⟩

/-- below 2^31 what is left lies inside the segment and inside the receive window `[rcv_nxt, rcv_nxt + free)` -/
theorem trimmed_eq (s0 : Sock) (seg : Segment) :
    ∃ q l off, trimmed s0 seg = { seg with seq := q, len := l, dataOff := off } ∧ l.toNat ≤ seg.len.toNat ∧
      (s0.rcv_nxt.toNat < 2 ^ 31 → seg.seq.toNat + seg.len.toNat < 2 ^ 31 → l ≠ 0 →
        s0.rcv_nxt.toNat ≤ q.toNat ∧ seg.seq.toNat ≤ q.toNat ∧ q.toNat + l.toNat ≤ seg.seq.toNat + seg.len.toNat ∧
          q.toNat + l.toNat ≤ s0.rcv_nxt.toNat + s0.rbuf.getWriteRemaining ∧
          off = seg.dataOff + (q.toNat - seg.seq.toNat)) := by
  obtain ⟨q, l1, off, e1, le1, b1⟩ := trimLeft_eq s0.rcv_nxt seg
  obtain ⟨l, e2, le2, b2⟩ := trimRight_eq s0.rcv_nxt s0.rbuf.getWriteRemaining { seg with seq := q, len := l1, dataOff := off }
  refine ⟨q, l, off, by unfold trimmed; rw [e1, e2], Nat.le_trans le2 le1, fun hn hs hl => ?_⟩
  have hl1 : l1 ≠ 0 := fun z => hl (UInt32.toNat_inj.mp (Nat.le_zero.mp (by rwa [z] at le2)))
  have ⟨c1, c2, c3, c4⟩ := b1 hn hs hl1
  have b2 := b2 c1 (by show q.toNat + l1.toNat < 2 ^ 32; omega)
  have hlpos : 0 < l.toNat := UInt32.lt_iff_toNat_lt.mp (UInt32.pos_iff_ne_zero.mpr hl)
  have le2 : l.toNat ≤ l1.toNat := le2
  simp only at b2
  exact ⟨c1, c2, by omega, by omega, c4⟩

theorem trimmed_flags (s0 : Sock) (seg : Segment) : (trimmed s0 seg).flags = seg.flags := by
  obtain ⟨_, _, _, e, _⟩ := trimmed_eq s0 seg
  rw [e]

theorem trimmed_len0 (s0 : Sock) (seg : Segment) (h : seg.len = 0) : (trimmed s0 seg).len = 0 := by
  obtain ⟨_, l, _, e, le, _⟩ := trimmed_eq s0 seg
  rw [e]
  exact UInt32.toNat_inj.mp (Nat.le_zero.mp (by rwa [h] at le))

theorem trimmed_id (s0 : Sock) (seg : Segment) (h : seg.seq = s0.rcv_nxt)
    (hl : seg.len.toNat ≤ s0.rbuf.getWriteRemaining) : trimmed s0 seg = seg := by
  have : (seg.seq + seg.len - s0.rcv_nxt).toNat = seg.len.toNat := by
    rw [h, UInt32.toNat_sub, UInt32.toNat_add]
    have := s0.rcv_nxt.toNat_lt; have := seg.len.toNat_lt; omega
  have e1 : trimLeft s0.rcv_nxt seg = seg := by unfold trimLeft; rw [h, smaller_self]; rfl
  unfold trimmed trimRight
  rw [e1, if_neg (by rw [this]; omega)]

/-- received so far: below `nxt`, or inside a recorded out-of-order range -/
def Known (nxt : Nat) (rl : List RSeg) (q : Nat) : Prop :=
  q < nxt ∨ ∃ r, r ∈ rl ∧ r.seq.toNat ≤ q ∧ q < r.seq.toNat + r.len.toNat

/-- `RCore` with `Sync`, FIN not consumed yet, by sequence number: every number received so far agrees -/
structure Synced (W : List UInt8) (D n : Nat) (rb : Fifo) (nxt : UInt32) (rl : List RSeg) : Prop where
  fok : FOk rb
  pre : n + rb.data ≤ W.length
  nx : nxt.toNat = D + n + rb.data
  hi : ∀ r, r ∈ rl → r.seq.toNat + r.len.toNat ≤ D + W.length
  ag : ∀ q, D + n ≤ q → Known nxt.toNat rl q → Agree W D n rb q

/-- what is left of an honest data segment after trimming -/
structure StoreOk (W : List UInt8) (D : Nat) (rb : Fifo) (nxt : UInt32) (seg : Segment) (p : Array UInt8) : Prop where
  lo : nxt.toNat ≤ seg.seq.toNat
  hi : seg.seq.toNat + seg.len.toNat ≤ D + W.length
  bytes : ∀ j, j < seg.len.toNat → p.getD (seg.dataOff + j) 0 = W.getD (seg.seq.toNat - D + j) 0
  fit : seg.seq.toNat + seg.len.toNat + rb.data ≤ nxt.toNat + rb.buf.size

theorem mem_rlistInsert (x : RSeg) {r : RSeg} {l : List RSeg} (h : r ∈ rlistInsert x l) : r ∈ x :: l := by
  induction l with
  | nil => exact h
  | cons d rest ih =>
    unfold rlistInsert at h
    split at h
    · rcases List.mem_cons.mp h with h | h
      · exact h ▸ List.mem_cons_of_mem _ List.mem_cons_self
      · rcases List.mem_cons.mp (ih h) with h | h
        · exact h ▸ List.mem_cons_self
        · exact List.mem_cons_of_mem _ (List.mem_cons_of_mem _ h)
    · exact h

section
variable {W : List UInt8} {D n : Nat}

theorem SegOk.end_le {seg : Segment} {p : Array UInt8} (hseg : SegOk W D seg p) (hl : seg.len ≠ 0) :
    seg.seq.toNat + seg.len.toNat ≤ D + W.length := by
  by_cases hctl : (seg.flags &&& cFLAG_CTL) = 0
  · exact (hseg.data hctl hl).2.1
  · rcases hseg.ctl hctl with h0 | h0
    · exact absurd h0 hl
    · rw [h0.1, h0.2]; show 0 + D ≤ _; omega

theorem trimmed_honest (hB : D + W.length + 2 < 2 ^ 31) (s0 : Sock) {seg : Segment} {p : Array UInt8}
    (hseg : SegOk W D seg p) (hf : FOk s0.rbuf) (hD : D ≤ s0.rcv_nxt.toNat) (hn : s0.rcv_nxt.toNat ≤ D + W.length + 1)
    (hl : (trimmed s0 seg).len ≠ 0) :
    (seg.flags &&& cFLAG_CTL) = 0 ∧ StoreOk W D s0.rbuf s0.rcv_nxt (trimmed s0 seg) p := by
  obtain ⟨q, l, off, e, le, b⟩ := trimmed_eq s0 seg
  rw [e] at hl ⊢
  have hl : l ≠ 0 := hl
  have hlpos : 0 < l.toNat := UInt32.lt_iff_toNat_lt.mp (UInt32.pos_iff_ne_zero.mpr hl)
  have hl0 : seg.len ≠ 0 := fun z => by rw [z] at le; exact absurd le (by show ¬ l.toNat ≤ 0; omega)
  have hend := hseg.end_le hl0
  have ⟨b1, b2, b3, b4, bo⟩ := b (by omega) (by omega) hl
  have hav : s0.rbuf.getWriteRemaining = s0.rbuf.buf.size - s0.rbuf.data := gsub_of_le hf.1.1 hf.2
  -- a control segment with bytes is the connect message, which ends at `D ≤ rcv_nxt`: trimming leaves nothing of it
  have hctl : (seg.flags &&& cFLAG_CTL) = 0 := Classical.byContradiction fun c =>
    (hseg.ctl c).elim (fun h0 => hl0 h0) fun h0 => by rw [h0.1, h0.2] at b3; have : (0 : UInt32).toNat = 0 := rfl; omega
  have ⟨d1, _, d3⟩ := hseg.data hctl hl0
  refine ⟨hctl, by show _ ≤ q.toNat; omega, by show q.toNat + l.toNat ≤ _; omega, fun j (hj : j < l.toNat) => ?_,
    by show q.toNat + l.toNat + _ ≤ _; have := hf.1.1; omega⟩
  show p.getD (off + j) 0 = W.getD (q.toNat - D + j) 0
  rw [bo, Nat.add_assoc, d3 _ (by omega)]
  -- not `congr 1`: it first tries `rfl` on the whole equation, 10^7 heartbeats here
  exact congrArg (W.getD · 0) (by omega)

/-- the stored range is entered as if it were recorded -/
theorem Synced.store {rb rb1 : Fifo} {nxt : UInt32} {rl : List RSeg} {seg : Segment} {p : Array UInt8} {res : Nat}
    (hc : Synced W D n rb nxt rl) (hs : StoreOk W D rb nxt seg p)
    (hw : rb.writeOffset p seg.dataOff seg.len.toNat (seg.seq.toNat - nxt.toNat) = .ok (res, rb1)) :
    res = seg.len.toNat ∧ Synced W D n rb1 nxt ({ seq := seg.seq, len := seg.len } :: rl) := by
  have hlo := hs.lo
  have hfit := hs.fit
  have hnx := hc.nx
  have hfd := hc.fok.1.1
  have ⟨hres, hby⟩ := writeOffset_content hc.fok hw
  have ⟨hf1, hsz, hd1, _⟩ := writeOffset_ok hc.fok hw
  have hres' : res = seg.len.toNat := by omega
  subst hres'
  -- in terms of sequence numbers: position `q - (D + n)` is overwritten iff `q` lies in the segment
  have key : ∀ q, D + n ≤ q → q - (D + n) < rb.buf.size → byteAt rb1 (q - (D + n)) =
      if seg.seq.toNat ≤ q ∧ q < seg.seq.toNat + seg.len.toNat then W.getD (q - D) 0 else byteAt rb (q - (D + n)) := by
    intro q hq hq'
    rw [hby _ hq']
    by_cases c : seg.seq.toNat ≤ q ∧ q < seg.seq.toNat + seg.len.toNat
    · rw [if_pos (by omega), if_pos c, hs.bytes _ (by omega)]
      exact congrArg (W.getD · 0) (by omega)
    · rw [if_neg (by omega), if_neg c]
  refine ⟨rfl, hf1, hd1 ▸ hc.pre, hd1 ▸ hnx, fun r hr => ?_, fun q hq hk => ?_⟩
  · rcases List.mem_cons.mp hr with rfl | hr
    · exact hs.hi
    · exact hc.hi r hr
  · by_cases c : seg.seq.toNat ≤ q ∧ q < seg.seq.toNat + seg.len.toNat
    · have hq' : q - (D + n) < rb.buf.size := by omega
      exact ⟨hsz ▸ hq', by rw [key q hq hq', if_pos c]⟩
    · have ha : Agree W D n rb q := hc.ag q hq (hk.imp_right fun ⟨r, hr, h1, h2⟩ => by
        rcases List.mem_cons.mp hr with rfl | hr
        · exact absurd ⟨h1, h2⟩ c
        · exact ⟨r, hr, h1, h2⟩)
      exact ⟨hsz ▸ ha.1, by rw [key q hq ha.1, if_neg c]; exact ha.2⟩

theorem Synced.sub {rb : Fifo} {nxt : UInt32} {rl rl' : List RSeg} (hc : Synced W D n rb nxt rl)
    (h : ∀ r, r ∈ rl' → r ∈ rl) : Synced W D n rb nxt rl' :=
  ⟨hc.fok, hc.pre, hc.nx, fun r hr => hc.hi r (h r hr),
    fun q hq hk => hc.ag q hq (hk.imp_right fun ⟨r, hr, x⟩ => ⟨r, h r hr, x⟩)⟩

/-- `[nxt, nxt + k)` lies inside the head range `d`: what is known after the commit was known before -/
theorem Synced.commit {rb rb' : Fifo} {nxt k : UInt32} {d : RSeg} {rl : List RSeg} (hB : D + W.length + 2 < 2 ^ 31)
    (hc : Synced W D n rb nxt (d :: rl)) (hcw : rb.consumeWriteBuffer k.toNat = .ok rb')
    (hd : d.seq.toNat ≤ nxt.toNat) (hk : nxt.toNat + k.toNat = d.seq.toNat + d.len.toNat) :
    Synced W D n rb' (nxt + k) rl := by
  have hnx := hc.nx
  have hpre := hc.pre
  have hde := hc.hi d List.mem_cons_self
  have e : (nxt + k).toNat = nxt.toNat + k.toNat := add_toNat_of_lt _ _ (by omega)
  have ⟨hf, _, _⟩ := consumeWriteBuffer_ok hc.fok hcw
  rw [(consumeWriteBuffer_eq hcw).2] at hf ⊢
  refine ⟨hf, by show n + (rb.data + _) ≤ _; omega, by show _ = D + n + (rb.data + _); omega,
    fun r hr => hc.hi r (List.mem_cons_of_mem _ hr), fun q hq hk' => hc.ag q hq ?_⟩
  rcases hk' with h | ⟨r, hr, x⟩
  · by_cases c : q < nxt.toNat
    · exact .inl c
    · exact .inr ⟨d, List.mem_cons_self, by omega, by omega⟩
  · exact .inr ⟨r, List.mem_cons_of_mem _ hr, x⟩

/-- the head range reaches beyond `nxt`: commit up to its end; it lies below: drop it; a gap: stop -/
theorem rlistRecover_synced (hB : D + W.length + 2 < 2 ^ 31) (rl : List RSeg) :
    ∀ (rb : Fifo) (nxt wnd : UInt32) (sf : SendFlags) (r : List RSeg × Fifo × UInt32 × UInt32 × SendFlags),
      Synced W D n rb nxt rl → rlistRecover rl rb nxt wnd sf = .ok r →
      Synced W D n r.2.1 r.2.2.1 r.1 ∧ nxt.toNat ≤ r.2.2.1.toNat := by
  induction rl with
  | nil =>
    intro rb nxt wnd sf r hc h
    cases h
    exact ⟨hc, Nat.le_refl _⟩
  | cons d rest ih =>
    intro rb nxt wnd sf r hc h
    have hd := hc.hi d List.mem_cons_self
    have hnx := hc.nx
    have hpre := hc.pre
    have hsum : (d.seq + d.len).toNat = d.seq.toNat + d.len.toNat := add_toNat_of_lt _ _ (by omega)
    unfold rlistRecover at h
    rw [smaller_eq_iff _ _ (by omega) (by omega), larger_iff _ _ (by omega) (by omega), hsum] at h
    by_cases c1 : d.seq.toNat ≤ nxt.toNat
    · by_cases c2 : nxt.toNat < d.seq.toNat + d.len.toNat
      · simp only [c1, c2, decide_true, if_true] at h
        obtain ⟨rb1, h1, h2⟩ := bind_ok h
        have hadj : (d.seq + d.len - nxt).toNat = d.seq.toNat + d.len.toNat - nxt.toNat := by
          rw [sub_toNat_of_le _ _ (by omega), hsum]
        have ⟨k1, k2⟩ := ih _ _ _ _ r (hc.commit hB h1 c1 (by omega)) h2
        exact ⟨k1, by rw [add_toNat_of_lt _ _ (by omega)] at k2; omega⟩
      · simp only [c1, c2, decide_true, decide_false, if_true, if_false, Bool.false_eq_true] at h
        exact ih rb _ _ _ r (hc.sub fun _ => List.mem_cons_of_mem _) h
    · simp only [c1, decide_false, if_false, Bool.false_eq_true] at h
      cases h
      exact ⟨hc, Nat.le_refl _⟩

theorem storeStage_synced (hB : D + W.length + 2 < 2 ^ 31) (s : Sock) (seg : Segment) (p : Array UInt8) (sf : SendFlags)
    (r : Sock × SendFlags × Bool) (hc : Synced W D n s.rbuf s.rcv_nxt s.rlist) (hl : seg.len ≠ 0)
    (hs : StoreOk W D s.rbuf s.rcv_nxt seg p) (h : storeStage s seg p false sf = .ok r) :
    ∃ rb nxt wnd rl, r.1 = { s with rbuf := rb, rcv_nxt := nxt, rcv_wnd := wnd, rlist := rl } ∧
      Synced W D n rb nxt rl ∧ (seg.seq = s.rcv_nxt → s.rcv_nxt.toNat + seg.len.toNat ≤ nxt.toNat) := by
  have hhi := hs.hi
  rcases storeStage_cases h with ⟨h0, _⟩ | ⟨_, hb, _⟩ | ⟨_, _, rb1, hw, hr⟩
  · exact absurd h0 hl
  · cases hb
  · rw [sub_toNat_of_le _ _ hs.lo] at hw
    have hc1 := (hc.store hs hw).2
    rcases hr with ⟨heq, rfl⟩ | ⟨heq, rb2, rl, rb3, nxt3, wnd3, sf3, hcw, hrr, rfl⟩
    · exact ⟨rb1, s.rcv_nxt, s.rcv_wnd, _, rfl, hc1.sub fun _ => mem_rlistInsert _, fun e => absurd e heq⟩
    · have hc2 := hc1.commit hB hcw (by rw [heq]; exact Nat.le_refl _) (by rw [heq])
      have ⟨hc3, hmono⟩ := rlistRecover_synced hB _ _ _ _ _ _ hc2 hrr
      exact ⟨rb3, nxt3, wnd3, rl, rfl, hc3, fun _ => by rw [add_toNat_of_lt _ _ (by rw [← heq]; omega)] at hmono; exact hmono⟩

theorem Synced.of_rcore {s : Sock} (hc : RCore W D n s) (hs : Sync W D n s.rbuf s.rcv_nxt s.rlist)
    (hnx : s.rcv_nxt.toNat = D + n + s.rbuf.data) : Synced W D n s.rbuf s.rcv_nxt s.rlist :=
  ⟨hc.fok, hc.pre, hnx, fun r hr => (hs.2 r hr).1, fun q hq hk => by
    have hd := hc.fok.1.1
    by_cases c : q < s.rcv_nxt.toNat
    · refine ⟨by omega, ?_⟩
      rw [hc.com _ (by omega)]; exact congrArg (W.getD · 0) (by omega)
    · obtain ⟨r, hr, h1, h2⟩ := hk.resolve_left c
      exact (hs.2 r hr).2 q h1 h2 (by omega)⟩

/-- back, with `rcv_nxt` as it is or one further: the FIN consumed at the end of the stream -/
theorem Synced.rcore (hB : D + W.length + 2 < 2 ^ 31) {s : Sock} {nxt : UInt32} (h : Synced W D n s.rbuf nxt s.rlist)
    (hn : s.rcv_nxt = nxt ∨ (s.rcv_nxt = nxt + 1 ∧ nxt.toNat = D + W.length))
    (hf : s.rcv_fin = 0 ∨ s.rcv_fin.toNat = D + W.length) : RCore W D n s := by
  have hnx := h.nx
  have hle : nxt.toNat ≤ s.rcv_nxt.toNat := by
    rcases hn with e | ⟨e, he⟩ <;> rw [e]
    · exact Nat.le_refl _
    · rw [add_toNat_of_lt _ _ (by rw [UInt32.toNat_one]; omega)]; omega
  refine ⟨h.fok, h.pre, fun i hi => ?_, .inr ⟨?_, fun r hr => ⟨h.hi r hr, fun q q1 q2 _ =>
    h.ag q (by omega) (.inr ⟨r, hr, q1, q2⟩)⟩⟩, hf⟩
  · have := (h.ag (D + n + i) (Nat.le_add_right _ _) (.inl (by omega))).2
    rwa [Nat.add_sub_cancel_left, Nat.add_assoc, Nat.add_sub_cancel_left] at this
  · rcases hn with e | ⟨e, he⟩ <;> rw [e]
    · exact .inl hnx
    · exact .inr ⟨by rw [add_toNat_of_lt _ _ (by rw [UInt32.toNat_one]; omega), UInt32.toNat_one]; omega, by omega⟩

theorem dropPre_id (s : Sock) (seg : Segment) (h1 : s.state ≠ .listen) (h2 : s.state ≠ .synSent) :
    dropPre s seg = seg := by
  unfold dropPre
  have : (decide (s.state = .listen) || decide (s.state = .synSent)) = false := by simp [h1, h2]
  rw [this, Bool.and_false]; rfl

theorem ignoreData_of_shut (s0 : Sock) (seg2 : Segment) (hIgn : s0.support_fin_ack = false ∧ s0.shutdown ≠ .none) :
    ignoreData s0 seg2 = true := by
  unfold ignoreData
  have : (!s0.support_fin_ack && s0.shutdown != .none) = true := by
    rw [hIgn.1]; simp [hIgn.2]
  rw [this, Bool.or_true]

theorem ignoreData_of_open (s0 : Sock) (seg2 : Segment) (hIgn : ¬ (s0.support_fin_ack = false ∧ s0.shutdown ≠ .none))
    (hctl : (seg2.flags &&& cFLAG_CTL) = 0) : ignoreData s0 seg2 = false := by
  unfold ignoreData
  have h1 : (!s0.support_fin_ack && s0.shutdown != .none) = false := by
    cases hfa : s0.support_fin_ack with
    | true => rfl
    | false =>
      have : ¬ s0.shutdown ≠ .none := fun hx => hIgn ⟨hfa, hx⟩
      have : s0.shutdown = .none := Classical.not_not.mp this
      rw [this]; rfl
  rw [h1, Bool.or_false, hctl]; rfl

/-- an honest segment outside the "discard input" mode; one at `rcv_nxt` that fits moves `rcv_nxt` at least to its end -/
theorem store_synced (hB : D + W.length + 2 < 2 ^ 31) (s0 : Sock) (seg : Segment) (p : Array UInt8) (sf : SendFlags)
    (r : Sock × SendFlags × Bool) (hcn : Synced W D n s0.rbuf s0.rcv_nxt s0.rlist)
    (hIgn : ¬ (s0.support_fin_ack = false ∧ s0.shutdown ≠ .none)) (hseg : SegOk W D seg p)
    (h : storeStage s0 (trimmed s0 seg) p (ignoreData s0 (trimmed s0 seg)) sf = .ok r) :
    ∃ rb nxt wnd rl, r.1 = { s0 with rbuf := rb, rcv_nxt := nxt, rcv_wnd := wnd, rlist := rl } ∧
      Synced W D n rb nxt rl ∧
      (seg.seq = s0.rcv_nxt → seg.len.toNat ≤ s0.rbuf.getWriteRemaining →
        s0.rcv_nxt.toNat + seg.len.toNat ≤ nxt.toNat) := by
  have hnx := hcn.nx
  have hpre := hcn.pre
  by_cases hl : (trimmed s0 seg).len = 0
  · rw [storeStage_len0 _ _ _ _ _ hl] at h
    cases h
    refine ⟨_, _, s0.rcv_wnd, _, rfl, hcn, fun e1 e2 => ?_⟩
    rw [trimmed_id s0 seg e1 e2] at hl
    rw [hl]; exact Nat.le_refl _
  · have ⟨hctl, hso⟩ := trimmed_honest hB s0 hseg hcn.fok (by omega) (by omega) hl
    rw [ignoreData_of_open _ _ hIgn (by rw [trimmed_flags]; exact hctl)] at h
    obtain ⟨rb, nxt, wnd, rl, e, hc', hm⟩ := storeStage_synced hB s0 _ p sf r hcn hl hso h
    refine ⟨rb, nxt, wnd, rl, e, hc', fun e1 e2 => ?_⟩
    rw [trimmed_id s0 seg e1 e2] at hm
    exact hm e1

/-- in the "discard input" mode only `rcv_nxt` moves, and `Sync` is not claimed.  (About any segment `seg2`: proved inline
    for `trimmed s0 seg`, that term reaches the kernel inside the new `rcv_nxt`, and its `gsub` is more than it can unfold.) -/
theorem storeStage_ign (s0 : Sock) (seg2 : Segment) (p : Array UInt8) (sf : SendFlags)
    (r : Sock × SendFlags × Bool) (hi : RInv W D n s0)
    (hIgn : s0.support_fin_ack = false ∧ s0.shutdown ≠ .none) (hl : seg2.len ≠ 0)
    (h : storeStage s0 seg2 p (ignoreData s0 seg2) sf = .ok r) : RInv W D n r.1 := by
  have hc := hi.toS.core
  rw [ignoreData_of_shut _ _ hIgn, storeStage_ignore _ _ _ _ hl] at h
  cases h
  exact ⟨⟨hc.fok, hc.pre, hc.com, Or.inl hIgn, hc.finp⟩, hi.toS.ph,
    fun hF => absurd (hi.toS.fin4 hF).1 (by rw [hIgn.1]; decide), Or.inl rfl⟩

theorem storeStage_rinv (hB : D + W.length + 2 < 2 ^ 31) (s0 : Sock) (seg : Segment) (p : Array UInt8)
    (sf : SendFlags) (r : Sock × SendFlags × Bool) (hi : RInv W D n s0) (hseg : SegOk W D seg p)
    (h : storeStage s0 (trimmed s0 seg) p (ignoreData s0 (trimmed s0 seg)) sf = .ok r) : RInv W D n r.1 := by
  have hc := hi.toS.core
  have hpre := hc.pre
  have same : (trimmed s0 seg).len = 0 → RInv W D n r.1 := fun hl => by
    rw [storeStage_len0 _ _ _ _ _ hl] at h
    cases h
    exact hi
  by_cases hIgn : s0.support_fin_ack = false ∧ s0.shutdown ≠ .none
  · by_cases hl : (trimmed s0 seg).len = 0
    · exact same hl
    · exact storeStage_ign s0 _ p sf r hi hIgn hl h
  · have hsync : Sync W D n s0.rbuf s0.rcv_nxt s0.rlist := hc.sync.resolve_left hIgn
    rcases hsync.1 with hnx | hnx
    · obtain ⟨rb, nxt, wnd, rl, e1, hcn', _⟩ := store_synced hB s0 seg p sf r (.of_rcore hc hsync hnx) hIgn hseg h
      rw [e1]
      exact ⟨hcn'.rcore hB (.inl rfl) hc.finp, hi.toS.ph, fun hF => absurd (hi.toS.fin4 hF).2 (by omega), Or.inl rfl⟩
    · -- the FIN has been consumed: trimming leaves nothing of an honest segment
      refine same (Classical.byContradiction fun hl => ?_)
      have ⟨_, hso⟩ := trimmed_honest hB s0 hseg hc.fok (by omega) (by omega) hl
      have := hso.lo
      have := hso.hi
      have : 0 < (trimmed s0 seg).len.toNat := UInt32.lt_iff_toNat_lt.mp (UInt32.pos_iff_ne_zero.mpr hl)
      omega

/-- `hrf`: `received_fin` is claimed only for the segment that completes the stream; `hfin`: a FIN-received state
    without it means the FIN has been consumed before -/
theorem processData_rinv (hB : D + W.length + 2 < 2 ^ 31) (s : Sock) (seg : Segment) (p : Array UInt8) (rf : Bool)
    (clk : UInt32) (r : Bool × Sock) (hc : RCore W D n s) (hph : s.state ≠ .listen ∧ s.state ≠ .synSent)
    (hseg : SegOk W D seg p)
    (hfin : rf = false → Fin4 s.state → s.support_fin_ack = true ∧ s.rcv_nxt.toNat = D + W.length + 1)
    (hrf : rf = true → seg.seq = s.rcv_nxt ∧ s.rcv_nxt + seg.len = s.rcv_fin ∧
      seg.len.toNat ≤ s.rbuf.getWriteRemaining ∧ s.rcv_nxt ≠ 0 ∧ s.support_fin_ack = true)
    (h : processData s seg p rf clk = .ok r) : RInv W D n r.2 := by
  obtain ⟨s1, sflags, bNew, s3, hst, has, rfl⟩ := processData_cases h
  have hc0 : RCore W D n (pdPrep s) := hc.congr rfl
  have hph0 : (pdPrep s).state ≠ .listen ∧ (pdPrep s).state ≠ .synSent := hph
  have hfin0 : rf = false → Fin4 (pdPrep s).state →
      (pdPrep s).support_fin_ack = true ∧ (pdPrep s).rcv_nxt.toNat = D + W.length + 1 := hfin
  have hrf0 : rf = true → seg.seq = (pdPrep s).rcv_nxt ∧ (pdPrep s).rcv_nxt + seg.len = (pdPrep s).rcv_fin ∧
      seg.len.toNat ≤ (pdPrep s).rbuf.getWriteRemaining ∧ (pdPrep s).rcv_nxt ≠ 0 ∧ (pdPrep s).support_fin_ack = true := hrf
  generalize pdPrep s = s0 at hst hc0 hph0 hfin0 hrf0
  rw [dropPre_id _ _ hph0.1 hph0.2] at hst
  have key : RInv W D n { s1 with rcv_nxt := if rf = true then s1.rcv_nxt + 1 else s1.rcv_nxt } := by
    cases rf with
    | false => exact storeStage_rinv hB s0 seg p _ _ ⟨hc0, hph0, hfin0 rfl, Or.inl rfl⟩ hseg hst
    | true =>
      have ⟨a1, a2, a3, a4, a5⟩ := hrf0 rfl
      have hIgn : ¬ (s0.support_fin_ack = false ∧ s0.shutdown ≠ .none) := fun hI => by rw [a5] at hI; cases hI.1
      have hsync : Sync W D n s0.rbuf s0.rcv_nxt s0.rlist := hc0.sync.resolve_left hIgn
      have hpre := hc0.pre
      have hd : s0.rcv_nxt.toNat ≠ 0 := fun e0 => a4 (UInt32.toNat_inj.mp (by rw [e0]; rfl))
      have hlenb : seg.len.toNat ≤ D + W.length := by
        by_cases hl0 : seg.len = 0
        · rw [hl0]; exact Nat.zero_le _
        · have := hseg.end_le hl0; omega
      -- the segment ends at the recorded FIN position, which is the end of the stream
      have hend : s0.rcv_nxt.toNat + seg.len.toNat = D + W.length := by
        have hsum : (s0.rcv_nxt + seg.len).toNat = s0.rcv_nxt.toNat + seg.len.toNat :=
          add_toNat_of_lt _ _ (by rcases hsync.1 with hnx | hnx <;> omega)
        rcases hc0.finp with f0 | f0
        · have : (s0.rcv_nxt + seg.len).toNat = 0 := by rw [a2, f0]; rfl
          omega
        · rw [← a2, hsum] at f0; exact f0
      have hnx : s0.rcv_nxt.toNat = D + n + s0.rbuf.data := hsync.1.resolve_right (fun hnx => by omega)
      obtain ⟨rb, nxt, wnd, rl, e1, hcn, hm⟩ := store_synced hB s0 seg p _ _ (.of_rcore hc0 hsync hnx) hIgn hseg hst
      simp only at e1
      subst e1
      have := hm a1 a3
      have := hcn.nx
      have := hcn.pre
      have he : nxt.toNat = D + W.length := by omega
      refine ⟨hcn.rcore hB (.inr ⟨rfl, he⟩) hc0.finp, hph0, fun _ => ⟨a5, ?_⟩, Or.inl rfl⟩
      show (nxt + 1).toNat = _
      rw [add_toNat_of_lt _ _ (by rw [UInt32.toNat_one]; omega), UInt32.toNat_one, he]
  exact key.local ((local_of_sent (attemptSend_sent has)).trans (.emitIf _ _))

end

end Nice.Proofs.PTcpStream
