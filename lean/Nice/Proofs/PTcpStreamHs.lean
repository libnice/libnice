/-
  The receive side before and across the handshake.  `MidP`: nothing has been received yet (`rcv_nxt = 0`, empty ring at
  least as large as the peer's connect message, empty `rlist`), with the state in a set `P`.  Every operation but
  `notify_packet` keeps it (a new ring must still hold the connect message); an honest packet keeps it or — the peer's connect message, when its data stage is reached —
  establishes `RInv W D 0` (`notifyPacket_pre`).  Whole histories from `Sock.init` need the execution hypothesis `GoodRun`.
-/
import Nice.Proofs.PTcpStreamRecv
namespace Nice.Proofs.PTcpStream
open Nice.PTcp Nice.Gen Nice.Proofs.PTcp

structure MidP (W : List UInt8) (D : Nat) (P : TcpState → Prop) (s : Sock) : Prop where
  fok : FOk s.rbuf
  nx : s.rcv_nxt = 0
  dz : s.rbuf.data = 0
  rl : s.rlist = []
  cap : D ≤ s.rbuf.buf.size
  finp : s.rcv_fin = 0 ∨ s.rcv_fin.toNat = D + W.length
  stk : P s.state

/-- the states in which nothing can have been received -/
def P3 (x : TcpState) : Prop := x = .listen ∨ x = .synSent ∨ x = .closed

theorem p3_of_localTr {a b : TcpState} (h : LocalTr a b) (ha : P3 a) : P3 b := by
  rcases h with rfl | rfl | ⟨_, rfl⟩ | ⟨h | h, _⟩ | ⟨h, _⟩
  · exact ha
  · exact Or.inr (Or.inr rfl)
  · exact Or.inr (Or.inl rfl)
  all_goals (rw [h] at ha; rcases ha with e | e | e <;> cases e)

abbrev PreInv (W : List UInt8) (D : Nat) (s : Sock) : Prop := MidP W D P3 s

/-- outcome of a handshake-phase step: still nothing received, or the connect message has been consumed.  The state is
    not tracked in the first case: `rcv_nxt = 0` outside LISTEN / SYN-SENT / CLOSED is what `GoodRun` excludes. -/
def MidOrInv (W : List UInt8) (D : Nat) (s : Sock) : Prop := MidP W D (fun _ => True) s ∨ RInv W D 0 s

section
variable {W : List UInt8} {D : Nat} {P Q : TcpState → Prop} {s s' : Sock}

theorem MidP.congr (h : MidP W D P s)
    (e : (s'.rbuf, s'.rcv_nxt, s'.rlist, s'.rcv_fin) = (s.rbuf, s.rcv_nxt, s.rlist, s.rcv_fin)) (hst : Q s'.state) :
    MidP W D Q s' := by
  obtain ⟨e1, e2, e3, e4⟩ : s'.rbuf = s.rbuf ∧ s'.rcv_nxt = s.rcv_nxt ∧ s'.rlist = s.rlist ∧ s'.rcv_fin = s.rcv_fin := by
    simpa using e
  exact ⟨e1 ▸ h.fok, e2 ▸ h.nx, e1 ▸ h.dz, e3 ▸ h.rl, e1 ▸ h.cap, e4 ▸ h.finp, hst⟩

theorem MidP.local (h : MidP W D P s) (k : LocalRel s s') (hst : Q s'.state) : MidP W D Q s' :=
  h.congr (by rw [show s'.rbuf = s.rbuf from k.rbuf, show s'.rcv_nxt = s.rcv_nxt from k.rcv_nxt,
    show s'.rlist = s.rlist from k.rlist, show s'.rcv_fin = s.rcv_fin from k.rcv_fin]) hst

theorem MidP.any (h : MidP W D P s) (k : LocalRel s s') : MidP W D (fun _ => True) s' := h.local k trivial

theorem PreInv.local (h : PreInv W D s) (k : LocalRel s s') : PreInv W D s' := MidP.local h k (p3_of_localTr k.state h.stk)

theorem mid_avail (hm : MidP W D P s) : s.rbuf.getWriteRemaining = s.rbuf.buf.size := by
  unfold Fifo.getWriteRemaining Fifo.cap
  rw [gsub_of_le hm.fok.1.1 hm.fok.2, hm.dz]; rfl

theorem rinv_after_handshake (W : List UInt8) (D : Nat) (s : Sock) (hf : FOk s.rbuf) (hd : s.rbuf.data = 0)
    (hl : s.rlist = []) (hn : s.rcv_nxt.toNat = D) (hfin : s.rcv_fin = 0 ∨ s.rcv_fin.toNat = D + W.length)
    (hst : s.state ≠ .listen ∧ s.state ≠ .synSent) (hF : ¬ Fin4 s.state) : RInv W D 0 s :=
  ⟨⟨hf, by rw [hd]; exact Nat.zero_le _, fun i hi => absurd hi (by rw [hd]; exact Nat.not_lt_zero _),
    Or.inr ⟨Or.inl (by rw [hn, hd]; rfl), fun r hr => absurd hr (by rw [hl]; exact List.not_mem_nil)⟩, hfin⟩,
    hst, fun h => absurd h hF, Or.inl rfl⟩

theorem resizeReceiveBuffer_mid {v : UInt32} (hm : MidP W D P s) (hv : D ≤ rcvBufSize v)
    (h : resizeReceiveBuffer s v = .ok s') : MidP W D P s' := by
  rcases resizeReceiveBuffer_eq h with rfl | ⟨rb, hsc, len, sc, wnd, _, rfl⟩
  · exact hm
  · have ⟨g1, g2⟩ := setCapacity_ok hm.fok.1 hsc
    rcases g2 with g2 | ⟨_, hsz, hd⟩
    · subst g2
      exact hm.congr rfl hm.stk
    · exact ⟨⟨g1, by rw [hsz]; exact u32_lt_64 _⟩, hm.nx, hd.trans hm.dz, hm.rl, by show D ≤ rb.buf.size; rw [hsz]; exact hv,
        hm.finp, hm.stk⟩

theorem rcvBufSize_default : rcvBufSize (UInt32.ofNat DEFAULT_RCV_BUF_SIZE) = 61440 := by decide

/-- `parse_options` may fall back to the default ring, hence `D ≤ DEFAULT_RCV_BUF_SIZE` -/
theorem parseOptions_mid (hD : D ≤ DEFAULT_RCV_BUF_SIZE) {p : Array UInt8} {base len : Nat} (hm : MidP W D P s)
    (h : parseOptions s p base len = .ok s') : MidP W D P s' := by
  obtain ⟨sc, fa, s1, sc', fa', _, _, hs1, rfl⟩ := parseOptions_eq h
  have k0 : MidP W D P { s with swnd_scale := sc, support_fin_ack := fa } := hm.congr rfl hm.stk
  have k1 : MidP W D P s1 := by
    rcases hs1 with rfl | hs1
    · exact k0
    · exact resizeReceiveBuffer_mid k0 (by rw [rcvBufSize_default]; exact hD) hs1
  exact k1.congr rfl k1.stk

theorem setRcvBuf_pre {v : UInt32} (hm : PreInv W D s) (hv : D ≤ rcvBufSize v) (h : setRcvBuf s v = .ok s') :
    PreInv W D s' := by
  unfold setRcvBuf at h
  rcases ite_ok h with ⟨_, h⟩ | ⟨_, h⟩
  · cases h; exact hm
  · exact resizeReceiveBuffer_mid hm hv h

theorem recv_pre {k : Nat} {clk : UInt32} {ret : Int} {bytes : Array UInt8} (hm : PreInv W D s)
    (h : recv s k clk = .ok (ret, bytes, s')) : bytes = #[] ∧ PreInv W D s' := by
  rcases recv_local h with ⟨hb, ks⟩ | ⟨bs, rb, hrd, ks, hb⟩
  · exact ⟨hb, hm.local ks⟩
  · have ⟨hs, _, hd, _⟩ := fifo_read_takes hm.fok hrd
    have ⟨hf, hbuf, _⟩ := read_ok hm.fok hrd
    have hz : bs.size = 0 := by rw [hs, hm.dz]; exact Nat.min_zero _
    have k1 : PreInv W D { s with rbuf := rb } :=
      ⟨hf, hm.nx, by show rb.data = 0; rw [hd, hm.dz]; exact Nat.zero_sub _, hm.rl,
        by show D ≤ rb.buf.size; rw [hbuf]; exact hm.cap, hm.finp, hm.stk⟩
    exact ⟨hb.elim (fun e => e ▸ Array.eq_empty_of_size_eq_zero hz) (·.1), PreInv.local k1 ks⟩

end

/-- the connect message on a socket that has just left LISTEN / SYN-SENT, or an ordinary segment on one still there -/
def HsCase (st0 : TcpState) (seg : Segment) (bc : Bool) : Prop :=
  ((seg.flags &&& cFLAG_CTL) ≠ 0 ∧ bc = true ∧ (st0 = .synReceived ∨ st0 = .established)) ∨
  ((seg.flags &&& cFLAG_CTL) = 0 ∧ (st0 = .listen ∨ st0 = .synSent))

section
variable (W : List UInt8) (D : Nat)

/-- only the connect message (`seq = 0`, `len = D`) gets through: it fits the empty ring, is ignored as data and moves
    `rcv_nxt` to `D`; `dropPre` empties a data segment -/
theorem processData_mid (st0 : TcpState) (s : Sock) (seg : Segment) (p : Array UInt8) (bc : Bool) (clk : UInt32)
    (r : Bool × Sock) (hm : MidP W D (fun x => x = st0) s) (hc : HsCase st0 seg bc) (hseg : SegOk W D seg p)
    (h : processData s seg p false clk = .ok r) : MidOrInv W D r.2 := by
  obtain ⟨s1, sflags, bNew, s3, hs, has, rfl⟩ := processData_cases h
  have hm0 : MidP W D (fun x => x = st0) (pdPrep s) := hm.congr rfl hm.stk
  generalize pdPrep s = s0 at hs hm0
  have hst : s0.state = st0 := hm0.stk
  simp only [Bool.false_eq_true, if_false] at has
  have k : LocalRel s1 (emitIf (bNew && s3.bReadEnable) s3 .readable) :=
    (local_of_sent (attemptSend_sent has)).trans (.emitIf _ _)
  have drop : (dropPre s0 (trimmed s0 seg)).len = 0 → MidOrInv W D (emitIf (bNew && s3.bReadEnable) s3 .readable) := by
    intro hl
    rw [storeStage_len0 _ _ _ _ _ hl] at hs
    cases hs
    exact Or.inl (hm0.any k)
  rcases hc with ⟨hctl, _, c3⟩ | ⟨hctl, c3⟩
  · have hs1 : s0.state ≠ .listen ∧ s0.state ≠ .synSent := by
      rw [hst]; rcases c3 with e | e <;> rw [e] <;> exact ⟨(fun e => by cases e), (fun e => by cases e)⟩
    rw [dropPre_id _ _ hs1.1 hs1.2] at hs drop
    by_cases hl : seg.len = 0
    · exact drop (trimmed_len0 _ _ hl)
    · rcases hseg.ctl hctl with h0 | h0
      · exact absurd h0 hl
      · have hid : trimmed s0 seg = seg :=
          trimmed_id _ _ (by rw [h0.1, hm0.nx]) (by rw [mid_avail hm0, h0.2]; exact hm0.cap)
        have hig : ignoreData s0 seg = true := by
          unfold ignoreData
          have : ((seg.flags &&& cFLAG_CTL) != 0) = true := by simpa using hctl
          rw [this, Bool.true_or]
        rw [hid, hig, storeStage_ignore _ _ _ _ hl] at hs
        cases hs
        have hnx : (if (seg.seq == s0.rcv_nxt) = true then s0.rcv_nxt + seg.len else s0.rcv_nxt) = seg.len := by
          rw [h0.1, hm0.nx]; simp
        rw [hnx] at k
        refine Or.inr ((rinv_after_handshake W D { s0 with rcv_nxt := seg.len } hm0.fok hm0.dz hm0.rl h0.2 hm0.finp
          hs1 ?_).local k)
        show ¬ Fin4 s0.state
        rw [hst]; rcases c3 with e | e <;> rw [e] <;> exact fun hF => hF
  · apply drop
    unfold dropPre
    have c1 : ((trimmed s0 seg).flags &&& cFLAG_CTL) = 0 := by rw [trimmed_flags]; exact hctl
    have c2 : (decide (s0.state = .listen) || decide (s0.state = .synSent)) = true := by
      rw [hst]; rcases c3 with e | e <;> simp [e]
    rw [c1, c2]; rfl

theorem processFin_mid (st0 : TcpState) (seg : Segment) (p : Array UInt8) (bc : Bool) (clk : UInt32)
    (hc : HsCase st0 seg bc) (hseg : SegOk W D seg p) (s : Sock) (fa : Bool) (r : Bool × Sock)
    (hm : MidP W D (fun x => x = st0) s) (h : processFin s seg p bc fa clk = .ok r) : MidOrInv W D r.2 := by
  have hst : s.state = st0 := hm.stk
  obtain ⟨s1, hs1, hp⟩ := processFin_cases h
  clear h
  -- no "a bit hacky" step: a connect message (`bc`) or a state before SYN-RECEIVED
  have e1 : s1 = s := by
    rcases hs1 with ⟨e, hbc, _⟩ | ⟨_, e⟩
    · rcases hc with ⟨_, c2, _⟩ | ⟨_, c3⟩
      · exact absurd (c2.symm.trans hbc) (by decide)
      · have e' : st0 = .synReceived := hst.symm.trans e
        rcases c3 with c | c <;> exact absurd (c.symm.trans e') (by decide)
    · exact e
  subst e1
  have hmb : MidP W D (fun x => x = st0) (recordFin s1 seg) :=
    ⟨hm.fok, hm.nx, hm.dz, hm.rl, hm.cap, recordFin_finp hseg hm.finp, hst⟩
  rcases hp with ⟨_, h⟩ | ⟨_, _, _, rfl⟩ | ⟨_, h⟩
  · exact processData_mid W D st0 s1 seg p bc clk r hm hc hseg h
  · exact Or.inl (hmb.any (LocalRel.refl _))
  · -- `rcv_nxt = 0`: no `received_fin`, and without it the switch does nothing up to ESTABLISHED
    have hrf : recvFin (recordFin s1 seg) seg = false := by unfold recvFin; rw [hmb.nx]; rfl
    rw [hrf, finNext_open fa (by rw [hst]; rcases hc with ⟨_, _, e | e⟩ | ⟨_, e | e⟩ <;> simp [e])] at h
    exact processData_mid W D st0 _ seg p bc clk r (hmb.congr rfl hst) hc hseg h

theorem processAck_mid (st0 : TcpState) (seg : Segment) (p : Array UInt8) (bc : Bool) (clk : UInt32)
    (hc : HsCase st0 seg bc) (hseg : SegOk W D seg p) (s : Sock) (now : UInt32) (r : Bool × Sock)
    (hm : MidP W D (fun x => x = st0) s) (h : processAck s seg p bc now clk = .ok r) : MidOrInv W D r.2 := by
  obtain ⟨s1, hrel, hend⟩ := processAck_cases h
  have h1 : MidP W D (fun x => x = st0) s1 := hm.local (local_of_acked hrel).1 ((local_of_acked hrel).2.trans hm.stk)
  rcases hend with rfl | ⟨e, hcd, _⟩ | ⟨fa, hf⟩
  · exact Or.inl (h1.any (LocalRel.refl _))
  · exact Or.inl (h1.any (local_of_sent (closedown_sent hcd)))
  · exact processFin_mid W D st0 seg p bc clk hc hseg s1 fa r h1 hf

theorem hsStep_mid (hD : D ≤ DEFAULT_RCV_BUF_SIZE) (s s2 : Sock) (seg : Segment) (p : Array UInt8)
    (hst : s.state = .listen ∨ s.state = .synSent) (hm : MidP W D (fun _ => True) s) (h : hsStep s seg p = .ok s2) :
    ∃ st1, (st1 = .synReceived ∨ st1 = .established) ∧ MidP W D (fun x => x = st1) s2 := by
  obtain ⟨s1, h1, hc⟩ := hsStep_cases hst h
  have k1 : MidP W D (· = s.state) s1 := parseOptions_mid hD (hm.congr rfl rfl) h1
  rcases hc with ⟨_, h2⟩ | ⟨_, h2⟩ | ⟨hn1, hn2, _⟩
  · obtain ⟨w, sl, sb, rfl⟩ := queueConnectMessage_eq h2
    exact ⟨_, Or.inl rfl, k1.congr rfl rfl⟩
  · obtain ⟨s3, h3, rfl⟩ := setStateEstablished_eq h2
    have k3 : MidP W D (fun x => x = .established) { s1 with state := .established } := k1.congr rfl rfl
    have k := adjustMTU_sent h3
    exact ⟨_, Or.inr rfl, k3.local ((local_of_sent k).trans (.emitIf true _))
      (k.state.elim id (fun e => e.1.elim))⟩
  · exact hst.elim (fun c => absurd (k1.stk.trans c) hn1) (fun c => absurd (k1.stk.trans c) hn2)

theorem notifyPacket_pre (hD : D ≤ DEFAULT_RCV_BUF_SIZE) (s : Sock) (p : Array UInt8) (hp : PktOk W D p)
    (clk : UInt32) (r : Bool × Sock) (hm : PreInv W D s) (h : notifyPacket s p clk = .ok r) : MidOrInv W D r.2 := by
  rcases notifyPacket_cases h with ⟨e, rfl⟩ | rfl | ⟨seg, hs, h⟩
  · exact Or.inl (hm.any (LocalRel.refl s))
  · exact Or.inl (hm.any (LocalRel.refl s))
  · have hseg := hp seg hs
    have hm0 : MidP W D (fun x => x = s.state) (arrived s clk) := hm.congr rfl rfl
    have open' : s.state ≠ .closed → s.state = .listen ∨ s.state = .synSent := fun hnc => by
      rcases hm.stk with e | e | e
      · exact Or.inl e
      · exact Or.inr e
      · exact absurd e hnc
    rcases processBody_cases h with ⟨e, src, s1, h1, rfl⟩ | rfl | ⟨hnc, hctl, s2, h2, h3⟩ | ⟨hnc, hctl, h3⟩
    · exact Or.inl (hm0.any (local_of_sent (closedown_sent h1)))
    · exact Or.inl (hm0.any (LocalRel.refl _))
    · obtain ⟨st1, hst1, k2⟩ := hsStep_mid W D hD (arrived s clk) s2 seg p (open' hnc) (hm0.any (LocalRel.refl _)) h2
      exact processAck_mid W D st1 seg p true clk (Or.inl ⟨hctl, rfl, hst1⟩) hseg s2 _ r k2 h3
    · exact processAck_mid W D s.state seg p false clk (Or.inr ⟨hctl, open' hnc⟩) hseg _ _ r hm0 h3

end

/-- constraint on the environment for histories that include the handshake: honest packets, and a receive buffer that
    can hold the peer's connect message -/
def OpOk0 (W : List UInt8) (D : Nat) : Op → Prop
  | .packet p => PktOk W D p
  | .setRcvBuf v => D ≤ rcvBufSize v
  | _ => True

theorem OpOk0.toOpOk {W : List UInt8} {D : Nat} {op : Op} (h : OpOk0 W D op) : OpOk W D op := by
  cases op <;> first | exact h | trivial

/-- the handshake hypothesis on an execution: a socket that has left LISTEN / SYN-SENT (and is not CLOSED) has consumed
    the peer's connect message (`rcv_nxt ≠ 0`) -/
def GoodHs (s : Sock) : Prop := s.rcv_nxt = 0 → P3 s.state

/-- `GoodHs` holds after every step of the history -/
def GoodRun (s : Sock) : List (UInt32 × Op) → Prop
  | [] => True
  | (clk, op) :: rest => ∀ s' b, stepG s clk op = .ok (s', b) → GoodHs s' ∧ GoodRun s' rest

/-- along a history from `Sock.init`: nothing received yet (`n = 0`), or the invariant after the handshake -/
def PreOrInv (W : List UInt8) (D n : Nat) (s : Sock) : Prop := (n = 0 ∧ PreInv W D s) ∨ RInv W D n s

theorem init_pre (W : List UInt8) (D : Nat) (hD : D ≤ DEFAULT_RCV_BUF_SIZE) (conv : UInt32) :
    PreInv W D (Sock.init conv) :=
  ⟨fok_init _ (by decide) (by decide), rfl, rfl, rfl,
    by show D ≤ (Array.replicate DEFAULT_RCV_BUF_SIZE (0 : UInt8)).size; rw [Array.size_replicate]; exact hD,
    Or.inl rfl, Or.inl rfl⟩

section
variable (W : List UInt8) (D : Nat)

theorem stepG_pre (hD : D ≤ DEFAULT_RCV_BUF_SIZE) (s : Sock) (clk : UInt32) (op : Op) (s' : Sock) (b : Array UInt8)
    (hm : PreInv W D s) (hop : OpOk0 W D op) (h : stepG s clk op = .ok (s', b)) (hg : GoodHs s') :
    b = #[] ∧ (PreInv W D s' ∨ RInv W D 0 s') := by
  cases op with
  | recv k =>
    obtain ⟨⟨ret, b1, s1⟩, h1, h⟩ := bind_ok h
    cases h
    exact (recv_pre hm h1).imp id Or.inl
  | packet p =>
    obtain ⟨rfl, h1⟩ := stepG_step (fun _ e => by cases e) h
    obtain ⟨r, h2, h1⟩ := bind_ok h1
    cases h1
    -- `GoodHs` puts a socket that has still received nothing back into LISTEN / SYN-SENT / CLOSED
    exact ⟨rfl, (notifyPacket_pre W D hD s p hop clk _ hm h2).imp (fun k => k.local (LocalRel.refl _) (hg k.nx)) id⟩
  | setRcvBuf v =>
    obtain ⟨rfl, h1⟩ := stepG_step (fun _ e => by cases e) h
    exact ⟨rfl, Or.inl (setRcvBuf_pre hm hop h1)⟩
  | _ =>
    obtain ⟨rfl, h1⟩ := stepG_step (fun _ e => by cases e) h
    exact ⟨rfl, Or.inl (PreInv.local hm (step_local h1 trivial))⟩

end

theorem runG_preOrInv (W : List UInt8) (D : Nat) (hB : D + W.length + 2 < 2 ^ 31) (hD : D ≤ DEFAULT_RCV_BUF_SIZE)
    (ops : List (UInt32 × Op)) :
    ∀ (s : Sock) (n : Nat) (s' : Sock) (got' : List UInt8), PreOrInv W D n s →
      (∀ x, x ∈ ops → OpOk0 W D x.2) → GoodRun s ops → runG s (W.take n) ops = .ok (s', got') →
      ∃ n', n ≤ n' ∧ n' ≤ W.length ∧ got' = W.take n' ∧ PreOrInv W D n' s' := by
  induction ops with
  | nil =>
    intro s n s' got' hi _ _ h
    cases h
    exact ⟨n, Nat.le_refl _, hi.elim (fun k => k.1 ▸ Nat.zero_le _) RInv.le, rfl, hi⟩
  | cons x rest ih =>
    intro s n s' got' hi hops hgr h
    rcases hi with ⟨hn0, hm⟩ | hi
    · obtain ⟨clk, op⟩ := x
      obtain ⟨⟨s1, b⟩, h1, h⟩ := bind_ok h
      have ⟨hg1, hgr1⟩ := hgr s1 b h1
      subst hn0
      have ⟨b0, k⟩ := stepG_pre W D hD s clk op s1 b hm (hops (clk, op) List.mem_cons_self) h1 hg1
      subst b0
      have e : List.take 0 W ++ (#[] : Array UInt8).toList = List.take 0 W := by simp
      simp only at h
      rw [e] at h
      exact ih s1 0 s' got' (k.imp (fun k => ⟨rfl, k⟩) id) (fun x hx => hops x (List.mem_cons_of_mem _ hx)) hgr1 h
    · exact (runG_rinv W D hB (x :: rest) s n s' got' hi (fun y hy => (hops y hy).toOpOk) h).imp
        fun _ k => ⟨k.1, k.2.1, k.2.2.1, Or.inr k.2.2.2⟩

end Nice.Proofs.PTcpStream
