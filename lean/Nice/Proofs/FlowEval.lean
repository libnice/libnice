/-
  `reach` re-runs a loop body `rounds + 1` times whether or not the head set has stopped growing, so the kernel's work on
  a skeleton is exponential in its loop depth.  `reachF` is the same analysis that stops as soon as the head set is
  closed (and joins outcome lists without comparing the second with itself again); `reachF_sim` proves that the two give
  the same verdict and the same SET of outcomes (the lists may differ in order), so what the property files state about
  `reach` is decided by evaluating `reachF`.
-/
import Nice.Model.Flow
namespace Nice.Flow

def Same {α} (A B : List α) : Prop := ∀ x, x ∈ A ↔ x ∈ B

theorem Same.rfl {α} {A : List α} : Same A A := fun _ => Iff.rfl
theorem Same.symm {α} {A B : List α} (h : Same A B) : Same B A := fun x => (h x).symm
theorem Same.trans {α} {A B C : List α} (h : Same A B) (k : Same B C) : Same A C := fun x => (h x).trans (k x)

theorem Same.all {α} {A B : List α} (h : Same A B) (f : α → Bool) : A.all f = B.all f := by
  rw [Bool.eq_iff_iff, List.all_eq_true, List.all_eq_true]
  exact ⟨fun k x hx => k x ((h x).mpr hx), fun k x hx => k x ((h x).mp hx)⟩

theorem Same.any {α} {A B : List α} (h : Same A B) (f : α → Bool) : A.any f = B.any f := by
  rw [Bool.eq_iff_iff, List.any_eq_true, List.any_eq_true]
  exact ⟨fun ⟨x, hx, k⟩ => ⟨x, (h x).mp hx, k⟩, fun ⟨x, hx, k⟩ => ⟨x, (h x).mpr hx, k⟩⟩

structure Res.Sim (r r' : Res) : Prop where
  ok : r.ok = r'.ok
  outs : Same r.outs r'.outs

def subS (A B : List St) : Bool := A.all fun s => memS s B

theorem subS_iff {A B : List St} : subS A B = true ↔ ∀ s ∈ A, s ∈ B := by
  simp only [subS, List.all_eq_true, memS_iff]

/-- one more iteration from the head set `I`, given the body's outcomes on `I` -/
abbrev grow (I : List St) (outs : List (St × Out)) : List St := dedupS (I ++ contOf outs)

theorem mem_grow {I outs s} : s ∈ grow I outs ↔ s ∈ I ∨ ((s, Out.norm) ∈ outs ∨ (s, Out.cont) ∈ outs) := by
  rw [mem_dedupS, List.mem_append, mem_contOf]

/-- `A ∪ B`, comparing only the elements of `A` with what is already there: down a nest of `seq`s `dedupP (A ++ B)` would
    compare the accumulated outcomes `B` with one another again at every level -/
def unionP (A B : List (St × Out)) : List (St × Out) :=
  A.foldr (fun x acc => if elemBy peq x acc then acc else x :: acc) B

theorem mem_unionP {x : St × Out} {A B : List (St × Out)} : x ∈ unionP A B ↔ x ∈ A ∨ x ∈ B := by
  induction A generalizing x with
  | nil => simp [unionP]
  | cons a A ih =>
    rw [unionP, List.foldr_cons, ← unionP]
    split
    · rename_i h
      have ha : a ∈ A ∨ a ∈ B := ih.mp ((elemBy_iff peq_iff).mp h)
      rw [ih, List.mem_cons]
      constructor
      · rintro (k | k)
        · exact .inl (.inr k)
        · exact .inr k
      · rintro ((rfl | k) | k)
        · exact ha
        · exact .inl k
        · exact .inr k
    · rw [List.mem_cons, ih, List.mem_cons, or_assoc]

/-- the loop head as `reach` computes it, but stopping at the first closed set: the head set and the body's result
    on it -/
def headF (body : List St → Res) : Nat → List St → List St × Res
  | 0, I => (I, body I)
  | n + 1, I =>
    let rb := body I
    if subS (contOf rb.outs) I then (I, rb) else headF body n (grow I rb.outs)

def reachF (H : Havoc) (P : Policy) : Stmt → List St → Res
  | .loop b, S =>
    let (I, rb) := headF (reachF H P b) rounds S
    { outs := unionP (rb.outs.flatMap loopOut) (I.map (·, .norm)), ok := rb.ok && subS (contOf rb.outs) I }
  | .seq a b, S =>
    let ra := reachF H P a S
    let rb := reachF H P b (normOf ra.outs)
    { outs := unionP (ra.outs.filter (fun p => !isNorm p.2)) rb.outs, ok := ra.ok && rb.ok }
  | .ite c t e, S =>
    let rt := reachF H P t (S.filter fun s => canT c s)
    let re := reachF H P e (S.filter fun s => canF c s)
    { outs := unionP rt.outs re.outs, ok := rt.ok && re.ok }
  | .block b, S =>
    let rb := reachF H P b S
    { outs := dedupP (rb.outs.map unJmp), ok := rb.ok }
  | p, S => reach H P p S

section
variable {body bodyF : List St → Res} (hb : ∀ {S T}, Same S T → (bodyF S).Sim (body T))
include hb

/-- `body` respects `Same`: the induction on the statement only hands us the cross form `hb`, so go through `bodyF` twice -/
theorem body_congr {S T} (h : Same S T) : (body S).Sim (body T) :=
  ⟨(hb .rfl).ok.symm.trans (hb h).ok, (hb .rfl).outs.symm.trans (hb h).outs⟩

theorem grow_same {S T} (h : Same S T) : Same (grow S (bodyF S).outs) (grow T (body T).outs) := fun s => by
  rw [mem_grow, mem_grow, h s, (hb h).outs, (hb h).outs]

/-- once the head set is closed, further rounds change nothing -/
theorem closure_closed {T : List St} (hc : ∀ s ∈ contOf (body T).outs, s ∈ T) :
    ∀ n T', Same T' T → Same (closure body n T') T
  | 0, _, h => h
  | n + 1, T', h => closure_closed hc n _ fun s => by
      rw [mem_grow, h s, (body_congr hb h).outs, (body_congr hb h).outs, ← mem_contOf]
      exact ⟨fun k => k.elim id (hc s), Or.inl⟩

theorem headF_spec : ∀ n {S T}, Same S T →
    (headF bodyF n S).2 = bodyF (headF bodyF n S).1 ∧ Same (headF bodyF n S).1 (closure body n T)
  | 0, _, _, h => ⟨rfl, h⟩
  | n + 1, S, T, h => by
    simp only [headF]
    split
    · rename_i hc
      refine ⟨rfl, h.trans (closure_closed hb ?_ (n + 1) T .rfl).symm⟩
      intro s hs
      rw [mem_contOf, ← (hb h).outs, ← (hb h).outs, ← mem_contOf] at hs
      exact (h s).mp (subS_iff.mp hc s hs)
    · exact headF_spec n (grow_same hb h)

end

theorem reachF_sim {H : Havoc} {P : Policy} (p : Stmt) :
    ∀ {S T}, Same S T → (reachF H P p S).Sim (reach H P p T) := by
  induction p with
  | seq a b iha ihb =>
    intro S T h
    have ha := iha h
    have hb := ihb (S := normOf (reachF H P a S).outs) (T := normOf (reach H P a T).outs)
      fun s => by rw [mem_normOf, mem_normOf, ha.outs]
    refine ⟨by simp only [reachF, reach, ha.ok, hb.ok], fun x => ?_⟩
    simp only [reachF, reach, mem_unionP, mem_dedupP, List.mem_append, List.mem_filter, ha.outs x, hb.outs x]
  | ite c t e iht ihe =>
    intro S T h
    have ht := iht (S := S.filter fun s => canT c s) (T := T.filter fun s => canT c s)
      fun s => by rw [List.mem_filter, List.mem_filter, h s]
    have he := ihe (S := S.filter fun s => canF c s) (T := T.filter fun s => canF c s)
      fun s => by rw [List.mem_filter, List.mem_filter, h s]
    refine ⟨by simp only [reachF, reach, ht.ok, he.ok], fun x => ?_⟩
    simp only [reachF, reach, mem_unionP, mem_dedupP, List.mem_append, ht.outs x, he.outs x]
  | block b ihb =>
    intro S T h
    have hb := ihb h
    refine ⟨hb.ok, fun x => ?_⟩
    simp only [reachF, reach, mem_dedupP, List.mem_map, hb.outs _]
  | loop b ihb =>
    intro S T h
    have ⟨e, hI⟩ := headF_spec (fun h => ihb h) rounds h
    have hr := ihb hI
    rw [← e] at hr
    -- `hin`: the test `S ⊆ I` of `reach` always holds, `reachF` omits it; `hcl`: the closedness tests agree on `Same` sets
    have hin : (T.all fun s => memS s (closure (reach H P b) rounds T)) = true :=
      List.all_eq_true.mpr fun s hs => memS_iff.mpr (subset_closure _ _ _ s hs)
    have hcl : subS (contOf (headF (reachF H P b) rounds S).2.outs) (headF (reachF H P b) rounds S).1 =
        (contOf (reach H P b (closure (reach H P b) rounds T)).outs).all
          (fun s => memS s (closure (reach H P b) rounds T)) := by
      rw [Bool.eq_iff_iff, subS_iff, List.all_eq_true]
      simp only [mem_contOf, memS_iff, hr.outs _, hI _]
    refine ⟨by simp only [reachF, reach, hr.ok, hcl, hin, Bool.and_true], fun x => ?_⟩
    simp only [reachF, reach, mem_unionP, mem_dedupP, List.mem_append, List.mem_map, List.mem_flatMap, hr.outs _, hI _,
      or_comm]
  | skip | ret | brk | cont | abort | jmp =>
    intro S T h
    exact ⟨rfl, fun x => by simp only [reachF, reach, List.mem_map, h _]⟩
  | set =>
    intro S T h
    exact ⟨rfl, fun x => by simp only [reachF, reach, mem_dedupP, List.mem_map, h _]⟩
  | havoc =>
    intro S T h
    exact ⟨rfl, fun x => by simp only [reachF, reach, mem_dedupP, List.mem_map, List.mem_flatMap, h _]⟩
  | ev =>
    intro S T h
    exact ⟨h.all _, fun x => by simp only [reachF, reach, List.mem_map, h _]⟩

theorem reach_ok_eq (H : Havoc) (P : Policy) (p : Stmt) (S : List St) : (reach H P p S).ok = (reachF H P p S).ok :=
  (reachF_sim p .rfl).ok.symm

theorem reach_all_eq (H : Havoc) (P : Policy) (p : Stmt) (S : List St) (f : St × Out → Bool) :
    (reach H P p S).outs.all f = (reachF H P p S).outs.all f :=
  ((reachF_sim p .rfl).outs.all f).symm

theorem reach_any_eq (H : Havoc) (P : Policy) (p : Stmt) (S : List St) (f : St × Out → Bool) :
    (reach H P p S).outs.any f = (reachF H P p S).outs.any f :=
  ((reachF_sim p .rfl).outs.any f).symm

end Nice.Flow
