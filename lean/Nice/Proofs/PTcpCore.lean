/-
  `Sock` has 49 fields; the invariants of C08-C10 read 13 of them (`Core`).  What a model function does to a socket is stated
  once, as a relation between the footprints before and after (`SendRel`: the sending half, `AckRel`: the acknowledgement
  stage of `process`); an invariant then needs one lemma per relation, not one walk per function.
-/
import Nice.Proofs.PTcpFifo
namespace Nice.Proofs.PTcp
open Nice.PTcp Nice.Gen Std.Do

structure Core where
  rbuf : Fifo
  sbuf : Fifo
  rcv_nxt : UInt32
  rcv_fin : UInt32
  rlist : List RSeg
  snd_una : UInt32
  rx_rto : UInt32
  swnd_scale : UInt8
  rwnd_scale : UInt8
  support_fin_ack : Bool
  shutdown : Shutdown
  state : TcpState
  out : Array Event

/- `abbrev`, like the relations below: a statement about a socket that differs from `s` outside the footprint is then the
   statement about `s`, by unfolding.  With `def` the kernel first compares the two sockets field by field, and a field such
   as `rcv_wnd := UInt32.ofNat (gsub ..)` ends that in "deep recursion". -/
abbrev core (s : Sock) : Core :=
  { rbuf := s.rbuf, sbuf := s.sbuf, rcv_nxt := s.rcv_nxt, rcv_fin := s.rcv_fin, rlist := s.rlist, snd_una := s.snd_una,
    rx_rto := s.rx_rto, swnd_scale := s.swnd_scale, rwnd_scale := s.rwnd_scale, support_fin_ack := s.support_fin_ack,
    shutdown := s.shutdown, state := s.state, out := s.out }

/-- a callback, or a packet: a header alone, or with bytes read from the send ring `sb` at offset `seq - una` -/
def SentEv (sb : Fifo) (una : UInt32) : Event → Prop
  | .packet b => ∃ (s0 : Sock) (seq : UInt32) (fl : UInt8) (wnd : UInt16) (now : UInt32) (pl : Array UInt8),
      b = buildHeader s0 seq fl wnd now ++ pl ∧
      (pl = #[] ∨ ∃ len cap, len ≠ 0 ∧ pl.size = len ∧ sb.readOffset len (seq - una).toNat cap = .ok pl)
  | _ => True

/-- the sending half: every event of the new log is an old one or a `SentEv`; where `cl` holds (a `closedown` may happen)
    the state may also become CLOSED and the shutdown mode forceful -/
structure Core.Sent (cl : Prop) (c c' : Core) : Prop where
  rbuf : c'.rbuf = c.rbuf
  sbuf : c'.sbuf = c.sbuf
  rcv_nxt : c'.rcv_nxt = c.rcv_nxt
  rcv_fin : c'.rcv_fin = c.rcv_fin
  rlist : c'.rlist = c.rlist
  snd_una : c'.snd_una = c.snd_una
  rx_rto : c'.rx_rto = c.rx_rto
  swnd_scale : c'.swnd_scale = c.swnd_scale
  rwnd_scale : c'.rwnd_scale = c.rwnd_scale
  support_fin_ack : c'.support_fin_ack = c.support_fin_ack
  shutdown : c'.shutdown = c.shutdown ∨ (cl ∧ c'.shutdown = .forceful)
  state : c'.state = c.state ∨ (cl ∧ c'.state = .closed)
  out : ∀ e, e ∈ c'.out → e ∈ c.out ∨ SentEv c.sbuf c.snd_una e

abbrev SendRel (cl : Prop) (s s' : Sock) : Prop := (core s).Sent cl (core s')

theorem SendRel.refl (cl : Prop) (s : Sock) : SendRel cl s s :=
  ⟨rfl, rfl, rfl, rfl, rfl, rfl, rfl, rfl, rfl, rfl, .inl rfl, .inl rfl, fun _ h => .inl h⟩

theorem Core.Sent.step {cl : Prop} {c0 c : Core} (h : c0.Sent cl c) {st : TcpState} {sd : Shutdown} {o : Array Event}
    (hst : st = c.state ∨ (cl ∧ st = .closed)) (hsd : sd = c.shutdown ∨ (cl ∧ sd = .forceful))
    (ho : ∀ e, e ∈ o → e ∈ c.out ∨ SentEv c0.sbuf c0.snd_una e) :
    c0.Sent cl { c with state := st, shutdown := sd, out := o } :=
  { h with
    shutdown := hsd.elim (fun e => e ▸ h.shutdown) .inr
    state := hst.elim (fun e => e ▸ h.state) .inr
    out := fun e he => (ho e he).elim (h.out e) .inr }

theorem mem_push_of {α} {a : Array α} {x e : α} (P : α → Prop) (hx : P x) (h : e ∈ a.push x) : e ∈ a ∨ P e := by
  rcases Array.mem_push.mp h with h | rfl
  · exact .inl h
  · exact .inr hx

theorem mem_pushIf_of {α} {a : Array α} {x e : α} (c : Bool) (P : α → Prop) (hx : P x)
    (h : e ∈ (if c then a.push x else a)) : e ∈ a ∨ P e := by
  cases c
  · exact .inl h
  · exact mem_push_of P hx h

/-- from a walk to what it keeps; `g` projects the socket out of the result (`id`, `Prod.snd`, ..) -/
theorem keeps_of {cl : Prop} {α : Type} {x : R α} {s : Sock} {g : α → Sock} {P : Sock → Prop}
    (h : ⦃⌜SendRel cl s s⌝⦄ x ⦃⇓? a => ⌜SendRel cl s (g a)⌝⦄) (hP : ∀ s', SendRel cl s s' → P s → P s') :
    ⦃⌜P s⌝⦄ x ⦃⇓? r => ⌜P (g r)⌝⦄ :=
  to_triple fun hp r hx => hP _ (of_triple_pre h (SendRel.refl _ _) r hx) hp

/-- `nAcked`, less one for an acknowledged FIN.  A pair and its second component: the model's
    `let (is_fin_ack, nAcked) := if .. then .. else ..` unfolds to this. -/
def ackLen (c : Core) (ack : UInt32) : UInt32 :=
  (if ((ack - c.snd_una).toNat == c.sbuf.data + 1 && hasSentFin c.state) = true then (true, ack - c.snd_una - 1)
   else (false, ack - c.snd_una)).2

theorem ackLen_fin {c : Core} {ack : UInt32} (h : (ack - c.snd_una).toNat = c.sbuf.data + 1)
    (hf : hasSentFin c.state = true) : ackLen c ack = ack - c.snd_una - 1 := by
  unfold ackLen
  rw [if_pos (by rw [h, hf]; simp)]

theorem ackLen_plain {c : Core} {ack : UInt32}
    (h : ¬ ((ack - c.snd_una).toNat = c.sbuf.data + 1 ∧ hasSentFin c.state = true)) : ackLen c ack = ack - c.snd_una := by
  unfold ackLen
  rw [if_neg (fun e => h (by simpa using e))]

/-- an acknowledgement: a new RTO inside the bounds, `snd_una := ack`, the acknowledged bytes dropped from the send ring -/
structure Core.Acked (c c' : Core) : Prop where
  rbuf : c'.rbuf = c.rbuf
  rcv_nxt : c'.rcv_nxt = c.rcv_nxt
  rcv_fin : c'.rcv_fin = c.rcv_fin
  rlist : c'.rlist = c.rlist
  swnd_scale : c'.swnd_scale = c.swnd_scale
  rwnd_scale : c'.rwnd_scale = c.rwnd_scale
  support_fin_ack : c'.support_fin_ack = c.support_fin_ack
  shutdown : c'.shutdown = c.shutdown
  state : c'.state = c.state
  out : c'.out = c.out
  rx_rto : c'.rx_rto = c.rx_rto ∨ ∃ x, c'.rx_rto = bound cMIN_RTO x cMAX_RTO
  ack : (c'.sbuf = c.sbuf ∧ c'.snd_una = c.snd_una) ∨ c.sbuf.consumeReadData (ackLen c c'.snd_una).toNat = .ok c'.sbuf

theorem Core.Acked.refl (c : Core) : c.Acked c :=
  ⟨rfl, rfl, rfl, rfl, rfl, rfl, rfl, rfl, rfl, rfl, .inl rfl, .inl ⟨rfl, rfl⟩⟩

theorem Core.Acked.advance {c cr : Core} (h : c.Acked cr) (hu : cr.sbuf = c.sbuf ∧ cr.snd_una = c.snd_una) {ack : UInt32}
    {sb : Fifo} (hc : cr.sbuf.consumeReadData (ackLen cr ack).toNat = .ok sb) :
    c.Acked { cr with snd_una := ack, sbuf := sb } := by
  refine { h with ack := .inr ?_ }
  have e : ackLen cr ack = ackLen c ack := by unfold ackLen; rw [hu.1, hu.2, h.state]
  rw [← e, ← hu.1]; exact hc

abbrev AckRel (s s' : Sock) : Prop := ∃ sm, (core s).Acked (core sm) ∧ SendRel False sm s'

theorem cMIN_RTO_toNat : cMIN_RTO.toNat = 1000 := by decide
theorem cMAX_RTO_toNat : cMAX_RTO.toNat = 60000 := by decide

def RtoOk (r : UInt32) : Prop := cMIN_RTO ≤ r ∧ r ≤ cMAX_RTO

theorem bound_range (x : UInt32) : RtoOk (bound cMIN_RTO x cMAX_RTO) := by
  unfold RtoOk bound
  simp only [UInt32.le_iff_toNat_le, decide_eq_true_eq]
  split <;> split <;> simp_all [UInt32.lt_iff_toNat_lt, cMIN_RTO_toNat, cMAX_RTO_toNat] <;> omega

theorem Core.Acked.rto {c c' : Core} (h : c.Acked c') (hr : RtoOk c.rx_rto) : RtoOk c'.rx_rto := by
  rcases h.rx_rto with e | ⟨x, e⟩ <;> rw [e]
  · exact hr
  · exact bound_range x

theorem backoff_toNat (r lim : UInt32) (h2 : r ≤ cMAX_RTO) : (min lim (r * 2)).toNat = min lim.toNat (2 * r.toNat) := by
  have h2' := UInt32.le_iff_toNat_le.mp h2
  rw [cMAX_RTO_toNat] at h2'
  have h2r : (r * 2).toNat = 2 * r.toNat := by
    rw [UInt32.toNat_mul, show (2 : UInt32).toNat = 2 from rfl, Nat.mod_eq_of_lt (by omega), Nat.mul_comm]
  rw [show min lim (r * 2) = if lim ≤ r * 2 then lim else r * 2 from rfl]
  split <;> rename_i hc <;> rw [UInt32.le_iff_toNat_le, h2r] at hc <;> (try rw [h2r]) <;> omega

/-- limit = DEF_RTO while connecting, else MAX_RTO -/
theorem backoff_range (r lim : UInt32) (h : RtoOk r) (hl : lim = cDEF_RTO ∨ lim = cMAX_RTO) : RtoOk (min lim (r * 2)) := by
  have e := backoff_toNat r lim h.2
  have h1' := UInt32.le_iff_toNat_le.mp h.1
  have h2' := UInt32.le_iff_toNat_le.mp h.2
  rw [cMIN_RTO_toNat] at h1'; rw [cMAX_RTO_toNat] at h2'
  constructor <;> rw [UInt32.le_iff_toNat_le, e] <;> rcases hl with rfl | rfl <;> simp only [cMIN_RTO_toNat, cMAX_RTO_toNat, show cDEF_RTO.toNat = 1000 from rfl] <;> omega

end Nice.Proofs.PTcp
