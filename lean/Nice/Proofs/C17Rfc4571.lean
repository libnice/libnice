/- C17: agent-level RFC 4571 reassembly = reference frame parser over the unconsumed bytes
   (buffered bytes after `frame_offset` ++ bytes pending in the socket) -/
import Nice.Proofs.C17Feed
import Nice.Proofs.Scatter
namespace Nice.Props.C17
open Nice.Sock Nice.Drv Nice.Rfc4571

/-- first complete frame of `u`: (payload, rest) -/
def splitFrame (u : Bytes) : Option (Bytes × Bytes) :=
  if 2 ≤ u.length ∧ 2 + be16 (u.getD 0 0) (u.getD 1 0) ≤ u.length then
    some ((u.drop 2).take (be16 (u.getD 0 0) (u.getD 1 0)), u.drop (2 + be16 (u.getD 0 0) (u.getD 1 0)))
  else none

/-- all complete frames of `u` and the incomplete tail -/
def parse : Nat → Bytes → List Bytes × Bytes
  | 0, u => ([], u)
  | n + 1, u =>
    match splitFrame u with
    | none => ([], u)
    | some (p, rest) => ((p :: (parse n rest).1), (parse n rest).2)

/-- a frame is handed to the caller iff it is non-empty and not consumed out-of-band -/
def deliverable (handled : Bytes → Bool) (p : Bytes) : Bool := !p.isEmpty && !handled p

def frameAt (s : St) : Nat := frameSizeAt s

/-- `Obs.errored` for this layer's stop test -/
def rerr (o : Obs) : Bool := o.rets.any (fun r => r == RECV_ERROR)

theorem rerr_add (o : Obs) (r : Res) : rerr (o.add r) = (rerr o || r.ret == RECV_ERROR) := any_rets_add o r _

/-- what C17 compares for the ICE-TCP reassembly: unconsumed buffered bytes, frame bookkeeping,
    messages handed to the application (with boundaries), bytes written, error outcome -/
structure ROut where
  leftover : Bytes
  fs       : Nat
  cs       : Nat
  fault    : Bool
  msgs     : List Bytes
  wire     : Bytes
  errored  : Bool
  deriving DecidableEq

def rOut (x : St × Base × Obs) : ROut :=
  { leftover := x.1.buf.drop x.1.fo, fs := x.1.fs, cs := x.1.cs, fault := x.1.fault,
    msgs := x.2.2.msgs, wire := x.2.2.wire, errored := rerr x.2.2 }

namespace Rfc4571

/-- `frame_size` as a function of the buffered, unconsumed bytes -/
def fsOf (l : Bytes) : Nat := if l.length < 2 then 0 else 2 + be16 (l.getD 0 0) (l.getD 1 0)

theorem be16_le (a b : UInt8) : be16 a b ≤ 65535 := by
  have h1 := UInt8.toNat_lt a
  have h2 := UInt8.toNat_lt b
  simp only [be16]; omega

theorem fsOf_le (l : Bytes) : fsOf l ≤ BUFSIZE := by
  have := be16_le (l.getD 0 0) (l.getD 1 0)
  simp only [fsOf, BUFSIZE]; split <;> omega

/-- `splitFrame` in terms of the frame size the layer caches -/
theorem splitFrame_eq (u : Bytes) :
    splitFrame u = if fsOf u ≠ 0 ∧ fsOf u ≤ u.length then some ((u.drop 2).take (fsOf u - 2), u.drop (fsOf u)) else none := by
  simp only [splitFrame, fsOf]
  by_cases h : u.length < 2
  · simp [h]; omega
  · have : 2 ≤ u.length := by omega
    simp [h, this]

theorem fsOf_append (u v : Bytes) (h : 2 ≤ u.length) : fsOf (u ++ v) = fsOf u := by
  have h1 : ¬ (u ++ v).length < 2 := by simp only [List.length_append]; omega
  have h2 : ¬ u.length < 2 := by omega
  simp only [fsOf, h1, h2, ↓reduceIte, List.getD_eq_getElem?_getD]
  rw [List.getElem?_append_left (by omega), List.getElem?_append_left (by omega)]

theorem splitFrame_len (u p rest : Bytes) (h : splitFrame u = some (p, rest)) : rest.length + 2 ≤ u.length := by
  unfold splitFrame at h
  split at h
  · obtain ⟨rfl, rfl⟩ := Prod.mk.inj (Option.some.inj h)
    simp only [List.length_drop]; omega
  · cases h

theorem splitFrame_append (u v p rest : Bytes) (h : splitFrame u = some (p, rest)) :
    splitFrame (u ++ v) = some (p, rest ++ v) := by
  rw [splitFrame_eq] at h
  split at h
  · rename_i hc
    obtain ⟨rfl, rfl⟩ := Prod.mk.inj (Option.some.inj h)
    have h2 : 2 ≤ u.length := by
      have := hc.1; simp only [fsOf] at this; split at this <;> omega
    have hfs : 2 ≤ fsOf u := by simp only [fsOf]; split <;> omega
    rw [splitFrame_eq, fsOf_append u v h2, if_pos ⟨hc.1, by simp only [List.length_append]; omega⟩,
      List.drop_append_of_le_length hc.2, List.drop_append_of_le_length h2,
      List.take_append_of_le_length (by simp only [List.length_drop]; omega)]
  · cases h

theorem parse_nil (n : Nat) : parse n [] = ([], []) := by cases n <;> simp [parse, splitFrame]

theorem parse_fuel (n m : Nat) (u : Bytes) (hn : u.length ≤ n) (hm : u.length ≤ m) : parse n u = parse m u := by
  induction n generalizing m u with
  | zero => rw [List.length_eq_zero_iff.mp (Nat.le_zero.mp hn), parse_nil, parse_nil]
  | succ n ih =>
    cases m with
    | zero => rw [List.length_eq_zero_iff.mp (Nat.le_zero.mp hm), parse_nil, parse_nil]
    | succ m =>
      simp only [parse]
      cases hs : splitFrame u with
      | none => rfl
      | some pr =>
        obtain ⟨p, rest⟩ := pr
        have := splitFrame_len u p rest hs
        simp only
        rw [ih m rest (by omega) (by omega)]

/-- the fuel `u.length` never runs out: a frame takes two bytes or more -/
def frames (u : Bytes) : List Bytes × Bytes := parse u.length u

theorem frames_some (u p rest : Bytes) (h : splitFrame u = some (p, rest)) :
    frames u = (p :: (frames rest).1, (frames rest).2) := by
  have hl := splitFrame_len u p rest h
  simp only [frames]
  cases hn : u.length with
  | zero => omega
  | succ n =>
    simp only [parse, h]
    rw [parse_fuel n rest.length rest (by omega) (Nat.le_refl _)]

theorem frames_none (u : Bytes) (h : splitFrame u = none) : frames u = ([], u) := by
  simp only [frames]; cases u.length <;> simp [parse, h]

/-- the reference parser is itself independent of how the stream is cut -/
theorem frames_append (u v : Bytes) :
    frames (u ++ v) = ((frames u).1 ++ (frames ((frames u).2 ++ v)).1, (frames ((frames u).2 ++ v)).2) := by
  generalize hn : u.length = n
  induction n using Nat.strongRecOn generalizing u with
  | _ n ih =>
    cases hs : splitFrame u with
    | none => simp [frames_none u hs]
    | some pr =>
      obtain ⟨p, rest⟩ := pr
      have hl := splitFrame_len u p rest hs
      rw [frames_some _ p (rest ++ v) (splitFrame_append u v p rest hs), frames_some u p rest hs,
        ih rest.length (by omega) rest rfl]
      simp

/-- the buffered bytes not yet turned into frames -/
def held (s : St) : Bytes := s.buf.drop s.fo

/-- reachable states of the reassembly fields: everything but the buffer, the frame offset and the
    wake-up flag is determined by the bytes held -/
def Normal (s : St) : Prop :=
  s.fault = false ∧ s.fo ≤ s.buf.length ∧ s.buf.length ≤ BUFSIZE ∧ s.cs = 0 ∧ s.fs = fsOf (held s)

theorem headroom_eq (s : St) : headroom s = (held s).length := by simp [headroom, held]

theorem frameSizeAt_eq (s : St) (h : 2 ≤ (held s).length) : frameSizeAt s = fsOf (held s) := by
  simp only [held, List.length_drop] at h
  have : ¬ s.buf.length - s.fo < 2 := by omega
  simp [frameSizeAt, fsOf, this, held]

/-- `agent_consume_next_rfc4571_chunk` past a frame that lies inside the buffer -/
theorem advance_eq (s : St) (hf : s.fault = false) (h : s.fo + s.fs ≤ s.buf.length) :
    advance s = { buf := s.buf, fo := s.fo + s.fs, fs := fsOf (s.buf.drop (s.fo + s.fs)), cs := 0,
                  wk := (splitFrame (s.buf.drop (s.fo + s.fs))).isSome, fault := false } := by
  have hnf : ¬ (s.fo + s.fs > s.buf.length) := by omega
  by_cases h2 : 2 ≤ s.buf.length - (s.fo + s.fs)
  · have : ¬ (s.buf.length - (s.fo + s.fs) < 2) := by omega
    simp [advance, hnf, headroom, h2, frameSizeAt, splitFrame_eq, fsOf, this, hf]
    split <;> simp [*]
  · have : s.buf.length - (s.fo + s.fs) < 2 := by omega
    simp [advance, hnf, headroom, h2, splitFrame_eq, fsOf, this, hf]

/-- handing up the cached frame = removing the first frame of the bytes held -/
theorem deliver_eq (handled : Bytes → Bool) (s : St) (b : Base) (hi : Normal s) (p rest : Bytes)
    (hw : splitFrame (held s) = some (p, rest)) :
    deliver handled s b =
      (if deliverable handled p then { ret := RECV_SUCCESS, up := [{ data := p }] } else { ret := RECV_OOB },
       { buf := s.buf, fo := s.fo + s.fs, fs := fsOf rest, cs := 0, wk := (splitFrame rest).isSome, fault := false }, b) ∧
    rest = s.buf.drop (s.fo + s.fs) ∧ s.fo + s.fs ≤ s.buf.length := by
  obtain ⟨hf, hfo, hb, hcs, hfs⟩ := hi
  rw [splitFrame_eq, ← hfs] at hw
  split at hw
  · rename_i hc
    obtain ⟨rfl, rfl⟩ := Prod.mk.inj (Option.some.inj hw)
    have hle : s.fo + s.fs ≤ s.buf.length := by simp only [held, List.length_drop] at hc; omega
    have hnf : ¬ (s.fo + s.fs > s.buf.length) := by omega
    have hfsle : s.fs ≤ BUFSIZE := by rw [hfs]; exact fsOf_le _
    have hP : (s.buf.drop (s.fo + 2)).take (s.fs - 2) = ((held s).drop 2).take (s.fs - 2) := by simp [held, List.drop_drop]
    have hrest : (held s).drop s.fs = s.buf.drop (s.fo + s.fs) := by simp [held, List.drop_drop]
    have htake : (((held s).drop 2).take (s.fs - 2)).take 65536 = ((held s).drop 2).take (s.fs - 2) :=
      List.take_of_length_le (by simp only [List.length_take, BUFSIZE] at *; omega)
    refine ⟨?_, hrest, hle⟩
    simp only [Nice.Rfc4571.deliver, hP, hnf, ↓reduceIte, htake, hrest]
    generalize ((held s).drop 2).take (s.fs - 2) = P
    have ha := fun cs => advance_eq { s with cs := cs } hf hle
    simp only at ha
    cases hP0 : P with
    | nil => simp [deliverable, ha]
    | cons x t => cases hh : handled (x :: t) <;> simp [deliverable, hh, ha]
  · cases hw

theorem missing_iff (s : St) (hi : Normal s) :
    (s.fs == 0 || decide (headroom s < s.fs)) = !(splitFrame (held s)).isSome ∧
    (s.fs != 0 && decide (headroom s ≥ s.fs)) = (splitFrame (held s)).isSome := by
  rw [splitFrame_eq, headroom_eq, hi.2.2.2.2]
  by_cases h0 : fsOf (held s) = 0 <;> by_cases h1 : fsOf (held s) ≤ (held s).length <;> simp [h0, h1] <;> omega

/-- one receive call: first `k` pending bytes are moved behind the bytes held (none while a whole frame
    is held), then the first frame held, if it is whole now, is handed up -/
theorem recv_spec (handled : Bytes → Bool) (s : St) (b : Base) (hi : Normal s) (hb : Base.Healthy b) :
    ∃ k s1, Normal s1 ∧ held s1 = held s ++ b.pend.take k ∧ s1.wk = s.wk ∧
      (splitFrame (held s1) = none → b.pend ≠ [] → 0 < k) ∧
      Nice.Rfc4571.recv handled s b =
        if (splitFrame (held s1)).isSome then deliver handled s1 { b with pend := b.pend.drop k }
        else ({ ret := RECV_WOULD_BLOCK }, s1, { b with pend := b.pend.drop k }) := by
  obtain ⟨hm, hws⟩ := missing_iff s hi
  obtain ⟨hf, hfo, hbl, hcs, hfs⟩ := hi
  have hnf : ¬ (s.fo > s.buf.length) := by omega
  cases hsp : splitFrame (held s) with
  | some pr =>
    refine ⟨0, s, ⟨hf, hfo, hbl, hcs, hfs⟩, by simp, rfl, fun h _ => absurd (hsp.symm.trans h) (by simp), ?_⟩
    simp only [hsp, Option.isSome_some, Bool.not_true] at hm
    simp only [Nice.Rfc4571.recv, hnf, ↓reduceIte, hm, Bool.false_eq_true, hws, hsp, Option.isSome_some, List.drop_zero]
  | none =>
    simp only [hsp, Option.isSome_none, Bool.not_false] at hm
    have hshort : fsOf (held s) = 0 ∨ (held s).length < fsOf (held s) := by
      rw [splitFrame_eq] at hsp; split at hsp
      · cases hsp
      · omega
    by_cases hp : b.pend = []
    · refine ⟨0, s, ⟨hf, hfo, hbl, hcs, hfs⟩, by simp, rfl, fun _ h => absurd hp h, ?_⟩
      have hnofs : (s.fs == 0 && decide (headroom s ≥ 2)) = false := by
        rw [headroom_eq, hfs]; simp only [fsOf]; split <;> simp <;> omega
      rw [show ({ b with pend := List.drop 0 b.pend } : Base) = b from rfl]
      simp [Nice.Rfc4571.recv, hnf, hm, hp, hb.2.1, hnofs, hws, hsp, RECV_WOULD_BLOCK]
    · have hhr : (held s).length < BUFSIZE := by
        have := fsOf_le (held s)
        rcases hshort with h | h
        · simp only [fsOf] at h; split at h <;> simp only [BUFSIZE] <;> omega
        · omega
      have hk : 0 < BUFSIZE - (held s).length := by omega
      generalize hkd : BUFSIZE - (held s).length = k at hk
      have hS : Normal ⟨held s ++ b.pend.take k, 0, fsOf (held s ++ b.pend.take k), 0, s.wk, false⟩ :=
        ⟨rfl, Nat.zero_le _, by simp only [List.length_append, List.length_take]; omega, rfl, rfl⟩
      refine ⟨k, _, hS, rfl, rfl, fun _ _ => hk, ?_⟩
      have hpl : (b.pend.length == 0) = false := by simpa using hp
      have hnf3 : ¬ ((held s).length > BUFSIZE) := by omega
      have hx : refill s b = (1, ⟨held s ++ b.pend.take k, 0, fsOf (held s ++ b.pend.take k), 0, s.wk, false⟩,
          { b with pend := b.pend.drop k }) := by
        simp only [refill, headroom_eq, hnf3, ↓reduceIte, hkd, read_healthy b hb k hk, hp, beq_self_eq_true]
        generalize b.pend.take k = t
        have hh : ∀ fs, held ⟨held s ++ t, 0, fs, 0, s.wk, false⟩ = held s ++ t := fun _ => rfl
        have hd : s.buf.drop s.fo = held s := rfl
        by_cases h0 : s.fs = 0
        · have hlt : (held s).length < 2 := by rw [hfs] at h0; simp only [fsOf] at h0; split at h0 <;> omega
          by_cases h2 : 2 ≤ (held s).length + t.length
          · simp [h0, hh, h2, frameSizeAt_eq ⟨held s ++ t, 0, 0, 0, s.wk, false⟩ (by simpa [hh] using h2), hd, hf, hcs]
          · have : fsOf (held s ++ t) = 0 := by simp only [fsOf, List.length_append]; split <;> omega
            simp [h0, hh, h2, this, hd, hf, hcs]
        · have h2 : 2 ≤ (held s).length := by rw [hfs] at h0; simp only [fsOf] at h0; split at h0 <;> omega
          simp [h0, fsOf_append _ t h2, ← hfs, hd, hf, hcs]
      simp only [Nice.Rfc4571.recv, hnf, ↓reduceIte, hm, hpl, Bool.false_eq_true, hx, (missing_iff _ hS).2]
      split
      · rfl
      · simp [RECV_WOULD_BLOCK]

/-- A configuration stands for the messages handed up and the bytes held; the reference parses `held ++ new` again.
    `μ` (the count behind `feedFuel`): a call that is not the last hands up a held frame (≥ 2 bytes) or moves a byte. -/
def refines (handled : Bytes → Bool) : Refines (rfc4571M handled) (fun s => s.buf.length) (List Bytes × Bytes) where
  run a x := (a.1 ++ (frames (a.2 ++ x)).1.filter (deliverable handled), (frames (a.2 ++ x)).2)
  abs s o := (o.msgs, held s)
  Ok x := Normal x.1 ∧ Base.Healthy x.2.1 ∧ x.2.2.down = [] ∧ rerr x.2.2 = false
  μ x := (held x.1 ++ x.2.1.pend).length + x.2.1.pend.length
  run_append := fun a x y => by simp only [← List.append_assoc, frames_append (a.2 ++ x) y, List.filter_append]
  push := fun s b o ch ⟨h1, h2, h3, h4⟩ => ⟨⟨h1, h2, h3, h4⟩, by
    simp only [held, feedFuel, List.length_append, List.length_drop]; omega⟩
  call := by
    rintro ⟨s, b, o⟩ ⟨hi, hb, hd, he⟩
    simp only at hi hb hd he
    have hrecv : (rfc4571M handled).recv s b = Nice.Rfc4571.recv handled { s with wk := false } b := rfl
    obtain ⟨k, s1, i1, hh, hwk, hkpos, hR⟩ := recv_spec handled { s with wk := false } b hi hb
    have hsplit : held s ++ b.pend = held s1 ++ b.pend.drop k := by
      rw [hh, List.append_assoc, List.take_append_drop]; rfl
    have hlen : (b.pend.drop k).length ≤ b.pend.length := by simp only [List.length_drop]; omega
    simp only [afterCall, callsAgain, hrecv, hR, hsplit]
    cases hsp : splitFrame (held s1) with
    | some pr =>
      obtain ⟨p, rest⟩ := pr
      obtain ⟨hD, hrest, hle⟩ := deliver_eq handled s1 { b with pend := b.pend.drop k } i1 p rest hsp
      have hl := splitFrame_len _ p rest hsp
      have i2 : Normal ⟨s1.buf, s1.fo + s1.fs, fsOf rest, 0, (splitFrame rest).isSome, false⟩ :=
        ⟨rfl, hle, i1.2.2.1, rfl, by simp only [held, hrest]⟩
      have hheld2 : held ⟨s1.buf, s1.fo + s1.fs, fsOf rest, 0, (splitFrame rest).isSome, false⟩ = rest := hrest.symm
      simp only [Option.isSome_some, ↓reduceIte, hD, hheld2, msgs_add,
        frames_some _ p (rest ++ b.pend.drop k) (splitFrame_append _ _ p rest hsp)]
      have hret : ∀ r : Res, r = (if deliverable handled p then { ret := RECV_SUCCESS, up := [{ data := p }] } else { ret := RECV_OOB }) →
          r.down = [] ∧ (r.ret == RECV_ERROR) = false ∧ r.up.map (·.data) = [p].filter (deliverable handled) := by
        rintro r rfl; split <;> simp [*, RECV_SUCCESS, RECV_OOB, RECV_ERROR]
      obtain ⟨e1, e2, e3⟩ := hret _ rfl
      have hstop : (rfc4571M handled).stop (if deliverable handled p then { ret := RECV_SUCCESS, up := [{ data := p }] }
          else { ret := RECV_OOB } : Res).ret = false := e2
      refine ⟨⟨i2, hb, by simp [Obs.add, hd, e1], by rw [rerr_add, he, e2]; rfl⟩, ?_, fun _ => ?_, fun h => ?_⟩
      · rw [e3]; simp only [List.filter_cons, List.filter_nil, List.append_assoc]; split <;> simp
      · simp only [List.length_append] at hl ⊢; omega
      · -- the loop ends here only with the wake-up flag down: no whole frame is left
        simp only [hstop, Bool.not_false, Bool.true_and, Bool.or_eq_false_iff, Bool.not_eq_false', List.isEmpty_iff] at h
        have hnone : splitFrame rest = none := by
          have : (splitFrame rest).isSome = false := h.2
          cases hs : splitFrame rest <;> simp [hs] at this ⊢
        rw [h.1, List.append_nil, frames_none _ hnone]; simp
    | none =>
      have hstop : (rfc4571M handled).stop RECV_WOULD_BLOCK = false := rfl
      have hw1 : (rfc4571M handled).wake s1 = false := hwk
      simp only [Option.isSome_none, Bool.false_eq_true, ↓reduceIte, msgs_add, List.map_nil, List.append_nil, hstop,
        Bool.not_false, Bool.true_and, hw1, Bool.or_false, Bool.not_eq_eq_eq_not, Bool.not_true, Bool.not_false,
        List.isEmpty_iff]
      refine ⟨⟨i1, hb, by simp [Obs.add, hd], by rw [rerr_add, he]; rfl⟩, trivial, fun h => ?_, fun h => ?_⟩
      · have hbp : b.pend ≠ [] := by intro h'; simp [h'] at h
        have := hkpos hsp hbp
        have := List.length_pos_iff.mpr hbp
        simp only [List.length_append, List.length_drop]; omega
      · rw [h, List.append_nil, frames_none _ hsp]; simp

/-- the outcome of any cut list is the reference parser's over `cs.flatten`; the other fields are constant -/
theorem feedAll_spec (handled : Bytes → Bool) (cs : List Bytes) :
    Normal (feedAll (rfc4571M handled) (fun s => s.buf.length) {} {} cs).1 ∧
    rOut (feedAll (rfc4571M handled) (fun s => s.buf.length) {} {} cs) =
      { leftover := (frames cs.flatten).2, fs := fsOf (frames cs.flatten).2, cs := 0, fault := false,
        msgs := (frames cs.flatten).1.filter (deliverable handled), wire := [], errored := false } := by
  have h0 : (refines handled).Quiet (({} : St), ({} : Base), ({} : Obs)) :=
    ⟨⟨⟨rfl, Nat.le_refl _, by decide, rfl, rfl⟩, ⟨rfl, rfl, rfl⟩, rfl, rfl⟩, rfl⟩
  obtain ⟨⟨⟨h1, _, h3, h4⟩, _⟩, habs⟩ := (refines handled).feedAll cs _ h0
  obtain ⟨hm, hl⟩ := Prod.mk.inj habs
  simp only [refines, Obs.msgs, List.map_nil, List.nil_append, held, List.drop_nil] at hm hl
  refine ⟨h1, ?_⟩
  simp only [rOut, ROut.mk.injEq, feedAll, h1.2.2.2.2, held, hl, Obs.msgs, hm, Obs.wire, h3, h4]
  exact ⟨trivial, trivial, h1.2.2.2.1, h1.1, trivial, rfl, trivial⟩

/-- a packet starting `oib` bytes into the first buffer: the next `n` bytes, none read outside its buffer -/
theorem gather_spec : ∀ (bufs : List Bytes) (oib n : Nat), (∀ b rest, bufs = b :: rest → oib ≤ b.length) →
    (gather bufs oib n).1.flatten = (bufs.flatten.drop oib).take n ∧ (gather bufs oib n).2.1 = false ∧
    (gather bufs oib n).2.2 = min n (bufs.flatten.length - oib) := by
  intro bufs
  induction bufs with
  | nil => intro oib n _; simp [gather]
  | cons b rest ih =>
    intro oib n h
    have hoib := h b rest rfl
    obtain ⟨i1, i2, i3⟩ := ih 0 (n - min (b.length - oib) n) (fun _ _ _ => Nat.zero_le _)
    simp only [gather, List.flatten_cons, i1, i2, i3, List.length_append, List.drop_zero,
      Nice.Copy.take_drop_append b rest.flatten oib n hoib]
    exact ⟨trivial, by simp; omega, by omega⟩

/-- `findStart` skips the `i` whole buffers before byte `offset` and stops inside the next one -/
theorem findStart_spec : ∀ (bufs : List Bytes) (j cur offset : Nat), cur ≤ offset →
    ∃ i, (findStart bufs j offset cur).1 = j + i ∧
      (bufs.drop i).flatten.drop (findStart bufs j offset cur).2.1 = bufs.flatten.drop (offset - cur) ∧
      ∀ b rest, bufs.drop i = b :: rest → (findStart bufs j offset cur).2.1 ≤ b.length := by
  intro bufs
  induction bufs with
  | nil => intro j cur offset _; exact ⟨0, by simp [findStart]⟩
  | cons b rest ih =>
    intro j cur offset hcur
    by_cases hskip : b.length ≤ offset - cur
    · obtain ⟨i, h1, h2, h3⟩ := ih (j + 1) (cur + b.length) offset (by omega)
      refine ⟨i + 1, ?_⟩
      simp only [findStart, hskip, ↓reduceIte, List.drop_succ_cons, List.flatten_cons, h1, h2]
      exact ⟨by omega, by rw [List.drop_append, List.drop_eq_nil_of_le hskip, List.nil_append]; congr 1; omega, h3⟩
    · refine ⟨0, ?_⟩
      simp only [findStart, hskip, ↓reduceIte, List.drop_zero, Nat.add_zero, true_and]
      intro b' rest' h
      obtain ⟨rfl, _⟩ := List.cons.inj h
      omega

end Rfc4571
end Nice.Props.C17
